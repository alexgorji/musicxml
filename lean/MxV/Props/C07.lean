import MxV.Props.Slotted
/-! # C07 — add_child never accepts a child that makes the element impossible to complete
Model side, `Tame` templates:
* `C07_reject_needed_flat` / `_rootChoice`: a child is rejected only when no word of the content model contains it
  together with the children already present (so nothing completable is ever refused — this is
  also the second half of C12);
* `C07_complete_rootChoice` / `C07_complete_flat`: every reachable state can be extended by further
  adds to one that passes the final check (explicit completion `Msimple.need`: the under-filled
  required leaves of every scope that is required or already non-empty); the side condition
  `minOccurs ≤ maxOccurs` for every leaf is decided on the regenerated templates
  (`templates_min_le_max`).
On the 78 `Slotted` templates: `Slotted.C07_complete_slotted`, `Slotted.C07_reject_needed_slotted`.
Partial: the remaining 16 types (no theorem; bounded completion search in the correspondence run only). -/
namespace C07
open Msimple

/-- Flat: whatever is rejected could not have been part of any valid arrangement -/
theorem C07_reject_needed_flat (p : Particle) (hf : isFlat p = true) (k : Kids) (c n : Nat) (e : Err)
    (h : add p k c n none = .error e) :
    ¬ ∃ w, p.Lang w ∧ ∀ m, count k m + (if m = n then 1 else 0) ≤ cnt w m := by
  obtain ⟨hfl, hnd⟩ := isFlat_iff.1 hf
  have hsl := Mslot.slotted_of_flat p hfl
  rintro ⟨w, hw, hc⟩
  -- the bounds hold of `w`, hence of the present children with the new one: `Mslot` places it
  have hmax := (Mslot.maxOK_flat w p hfl).1 (Mslot.maxOK_of_okS w p ((Mslot.slotted_iff p hsl hnd w).1 hw).1)
  have hcnt : ∀ m, cnt (names k ++ [n]) m ≤ cnt w m := fun m => by
    simpa only [cnt, count, List.count_append, List.count_singleton, beq_iff_eq, @eq_comm _ n m] using hc m
  have hpos : 0 < cnt w n := by
    have := hcnt n
    rw [cnt_snoc] at this
    omega
  have hn : n ∈ p.leaves := Particle.Lang_subset p w hw n (List.count_pos_iff.1 hpos)
  have hm := (Mslot.maxOK_flat _ p hfl).2 fun s hs => leMax_mono (hcnt s.1) (hmax s hs)
  rw [Tame.add_flat hf, Mslot.add_none_ok (Mslot.isSlotted_iff.2 ⟨hsl, hnd⟩) k c hn hm] at h
  cases h

/-- RootChoice: likewise -/
theorem C07_reject_needed_rootChoice (mi : Nat) (ma : Option Nat) (ps : List Particle)
    (hu : ps.all isUnitLeaf = true) (hma : ma = none ∨ ma = some 1) (k : Kids) (c n : Nat) (e : Err)
    (h : add (.choice mi ma ps) k c n none = .error e) :
    ¬ ∃ w, (Particle.choice mi ma ps).Lang w ∧ n ∈ w ∧ k.length + 1 ≤ w.length := by
  rintro ⟨w, hw, hn, hlen⟩
  obtain ⟨hsub, _, hhi⟩ := (lang_rootChoice hu w).1 hw
  have hmem : (Particle.leavesL ps).contains n = true := List.contains_iff_mem.2 (hsub n hn)
  simp only [add, flat_not_choice, Bool.false_eq_true, if_false, Particle.leaves, hmem, fwdOk, Bool.not_true] at h
  rcases hma with rfl | rfl
  · cases h
  · -- at most one child: `k` is empty, and then the add succeeds
    have : k = [] := List.eq_nil_of_length_eq_zero (by simp only [leMax, decide_eq_true_eq] at hhi; omega)
    subst this
    cases h

/-- RootChoice: every reachable state completes (at most one more child) -/
theorem C07_complete_rootChoice (mi : Nat) (ma : Option Nat) (ps : List Particle) (n : Nat) (rest : List Particle)
    (hps : ps = .elem n 1 (some 1) :: rest) (k : Kids) :
    required (.choice mi ma ps) k = [] ∨
    ∃ k', add (.choice mi ma ps) k 0 n none = .ok k' ∧ required (.choice mi ma ps) k' = [] := by
  subst hps
  cases k with
  | nil => right; cases ma <;> simp [add, flat_not_choice, Particle.leaves, Particle.leavesL, fwdOk, required]
  | cons a r => left; simp [required_choice]

/-- every leaf's minOccurs does not exceed its maxOccurs -/
def wfSpecs (p : Particle) : Bool := p.specs.all fun s => leMax s.2.1 s.2.2

theorem templates_min_le_max : (Gen.implTemplates.all fun kp => wfSpecs kp.2) = true := by decide +kernel

/-- Flat: every reachable state completes — adding `need` (all accepted) gives a state that passes
    the final check -/
theorem C07_complete_flat (p : Particle) (hf : isFlat p = true) (hwf : wfSpecs p = true) (k : Kids)
    (hi : Inv p k) (i : Nat) :
    runE p k (addOps i (need (cnt (names k)) p)) = .ok (k ++ zipIds i (need (cnt (names k)) p)) ∧
    required p (k ++ zipIds i (need (cnt (names k)) p)) = [] := by
  have ht : isTame p = true := by simp [isTame, hf]
  have hi' := (Tame.inv_iff ht).1 hi
  have h := Slotted.C07_complete_slotted p (Tame.isSlotted_of_isTame ht) hwf k hi' i
  rw [Slotted.needS_flat _ p (isFlat_iff.1 hf).1] at h
  obtain ⟨hr, hq, -⟩ := Tame.of_runES ht hi' h.1
  rw [hq]
  exact ⟨hr, h.2⟩

example : let p : Particle := .seq 1 (some 1) [.elem 0 1 (some 1), .seq 0 (some 1) [.elem 1 1 (some 1), .elem 2 2 (some 3)]]
    need (cnt [1]) p = [0, 2, 2] ∧ isFlat p = true ∧ wfSpecs p = true := by decide
end C07

#print axioms C07.C07_reject_needed_flat
#print axioms C07.C07_reject_needed_rootChoice
#print axioms C07.C07_complete_rootChoice
#print axioms C07.templates_min_le_max
#print axioms C07.C07_complete_flat
