import MxV.Model.Msimple
import MxV.Props.C04
/-! # C19 — misuse is reported with the documented exception types, silently otherwise
Model side: every rejection of an operation is one of the documented kinds — on every template, without
an explicit `forward` index and (since the repair `fix: add_child(child, forward=i) with an index outside
the same-name leaves raises 'Wrong forwarding'`) with one (`step_error_documented`; the two theorems
below it are its instances). The model functions are total
structural recursions, which is the modelled part of "never hangs". Output silence and the exception
classes of the real code are checked by the correspondence run (captured stdout/stderr, exception
enum). Partial: `Wild` types (open findings: NotImplementedError, IndexError, TypeError). -/
namespace C19
open Msimple

def Documented : Err → Prop
  | .wrongElement | .maxOccurs | .anotherChosen | .notAChild => True
  | _ => False

def noForward : Op → Prop
  | .add _ _ f => f = none
  | _ => True

/-- no operation, with or without a forward index, on any template, is rejected with `unmodelled`, the
    only kind that is not documented: no branch of the model functions returns it -/
theorem step_error_documented {p : Particle} {k : Kids} {op : Op} {e : Err} (h : step p k op = .error e) :
    Documented e := by
  cases e <;> try trivial
  cases op with
  | add c n f =>
    simp only [step, add, fwdErrChoice] at h
    repeat' split at h
    all_goals cases h
  | rm c =>
    simp only [step, remove] at h
    split at h <;> cases h
  | repl o nw n =>
    simp only [step, replace] at h
    repeat' split at h
    all_goals cases h

theorem errors_documented_tame (p : Particle) (k : Kids) (op : Op) (e : Err)
    (hop : noForward op) (h : step p k op = .error e) : Documented e :=
  step_error_documented h

/-- with forward 0 or -1 (the only valid indices when a name has one leaf) the same holds on Flat -/
theorem errors_documented_flat_fwd (p : Particle) (hf : isFlat p = true) (k : Kids) (c n : Nat) (f : Option Int)
    (hfw : fwdOk f = true) (e : Err) (h : add p k c n f = .error e) : Documented e :=
  step_error_documented (op := .add c n f) h

/-! ## attribute misuse (model `Element.setAttr`; its tie to the code — exception enum included — is
the element-engine correspondence of the C04 / C15 checks, which this check's obligations share) -/
section Attr
open Element Values

/-- attribute misuse: the kind of error is determined by *why* the assignment is refused — an
undeclared name gives the wrong-attribute error (XSDWrongAttribute / AttributeError), a declared name
with a refused value gives exactly the validator's TypeError / ValueError; the internal KeyError is
never produced — for every table, validator, store, key and value -/
theorem attr_errors_documented (validate : Nat → PyVal → Res) (t : Tbl) (s : Store) (key : String) (v : PyVal)
    (e : AErr) (h : setAttr validate t s key v = .error e) :
    (e = .wrongAttribute ∧ tblFind t (normKey key) = Option.none) ∨
    (∃ ty rq, tblFind t (normKey key) = some (ty, rq) ∧
      ((e = .typeError ∧ validate ty v = .typeError) ∨ (e = .valueError ∧ validate ty v = .valueError))) := by
  by_cases hv : v = .none
  · subst hv; cases h
  · rw [Element.setAttr_eq validate t s key v hv] at h
    split at h
    · cases h; exact .inl ⟨rfl, ‹_›⟩
    · refine .inr ⟨_, _, ‹_›, ?_⟩
      split at h <;> cases h
      · exact .inl ⟨rfl, ‹_›⟩
      · exact .inr ⟨rfl, ‹_›⟩

/-- removing (assigning None) is never an error, declared or not -/
theorem attr_remove_silent (validate : Nat → PyVal → Res) (t : Tbl) (s : Store) (key : String) :
    ∃ s', setAttr validate t s key .none = .ok s' := ⟨_, rfl⟩

example : (match setAttr (fun _ _ => .typeError) [("font-size", 7, false)] [] "font_size" (.int 1) with
      | .error .typeError => true | _ => false) = true ∧
    (match setAttr (fun _ _ => .ok) [("font-size", 7, false)] [] "colour" (.int 1) with
      | .error .wrongAttribute => true | _ => false) = true := by decide
end Attr
end C19

#print axioms C19.errors_documented_tame
#print axioms C19.errors_documented_flat_fwd
#print axioms C19.attr_errors_documented
#print axioms C19.attr_remove_silent
