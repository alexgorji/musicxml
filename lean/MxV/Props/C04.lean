import MxV.Model.ElementTheory
import MxV.Tables.D_names
/-! # C04 — the attribute interface of each element is exactly the schema's
Generic laws of the attribute store (`Element.setAttr` models `_set_attributes({key: value})`),
valid for every attribute table; the tables themselves are tied to the schema by
`C03.attr_tables_eq` (re-decided every run) and value validation by C05.
Partial: the six classes whose schema attribute `name` is shadowed by the Python property `name`
(dot assignment raises; open finding F10), xml:lang / xlink:* are exposed without their prefix
(open finding F12), and the 7 attribute tables the library cannot build (F9). -/
namespace C04
open Element Values

theorem storeGet_set_other (s : Store) (k k' : String) (v : PyVal) (h : k' ≠ k) :
    storeGet (storeSet s k v) k' = storeGet s k' :=
  storeGet_set_ne s k k' v h

theorem storeGet_del_other (s : Store) (k k' : String) (h : k' ≠ k) :
    storeGet (storeDel s k) k' = storeGet s k' :=
  storeGet_del_ne s k k' h

/-- assignment succeeds iff the (hyphenated) name is declared for the type and the value is valid
    for the attribute's simple type; then exactly that value is stored -/
theorem setAttr_ok_iff (validate : Nat → PyVal → Res) (t : Tbl) (s s' : Store) (key : String) (v : PyVal)
    (hv : v ≠ .none) :
    setAttr validate t s key v = .ok s' ↔
      ∃ ty req, tblFind t (normKey key) = some (ty, req) ∧ validate ty v = .ok ∧
        s' = storeSet s (normKey key) v := by
  rw [setAttr_eq validate t s key v hv]
  cases h : tblFind t (normKey key) with
  | none => simp
  | some p =>
    obtain ⟨ty, req⟩ := p
    cases hr : validate ty v <;> simp [hr, eq_comm]

/-- otherwise an error is raised and nothing is stored (the store is not even returned) -/
theorem setAttr_error_stores_nothing (validate : Nat → PyVal → Res) (t : Tbl) (s : Store) (key : String)
    (v : PyVal) (e : AErr) (h : setAttr validate t s key v = .error e) :
    ∀ s', setAttr validate t s key v ≠ .ok s' := by
  intro s' h'; rw [h] at h'; cases h'

/-- assigning None removes the attribute (whether declared or not, set or not) -/
theorem setAttr_none_removes (validate : Nat → PyVal → Res) (t : Tbl) (s : Store) (key : String) :
    setAttr validate t s key .none = .ok (storeDel s (normKey key)) ∧
    storeGet (storeDel s (normKey key)) (normKey key) = Option.none :=
  ⟨rfl, storeGet_del s _⟩

/-- after a successful assignment the stored value is the one assigned -/
theorem setAttr_stores (validate : Nat → PyVal → Res) (t : Tbl) (s s' : Store) (key : String) (v : PyVal)
    (hv : v ≠ .none) (h : setAttr validate t s key v = .ok s') : storeGet s' (normKey key) = some v := by
  obtain ⟨_, _, _, _, rfl⟩ := (setAttr_ok_iff validate t s s' key v hv).1 h
  exact storeGet_set s _ v

/-- to_string() refuses an element lacking a schema-required attribute -/
theorem missingRequired_nil_iff (t : Tbl) (s : Store) :
    missingRequired t s = [] ↔ ∀ r ∈ t, r.2.2 = true → s.any (·.1 == r.1) = true := by
  unfold missingRequired
  simp only [List.map_eq_nil_iff, List.filter_eq_nil_iff, Bool.and_eq_true, Bool.not_eq_true', not_and,
    Bool.not_eq_false]

/-- the serialised attributes are exactly the stored ones, under the stored (schema) names -/
def xmlAttrs (s : Store) : List (String × String) := s.map fun (k, v) => (k, pyStr v)
theorem serialised_eq_store (s : Store) : (xmlAttrs s).map (·.1) = s.map (·.1) := by
  simp [xmlAttrs]

/-- the underscore→hyphen mapping is idempotent, so `font_size` and `font-size` address one slot -/
theorem normKey_idem (k : String) : normKey (normKey k) = normKey k :=
  normKey_respell _ (fun c => by by_cases h : c = '_' <;> simp [h]) k

/-- frame: a successful assignment to one attribute leaves every other attribute as it was -/
theorem setAttr_frame (validate : Nat → PyVal → Res) (t : Tbl) (s s' : Store) (key k' : String) (v : PyVal)
    (h : setAttr validate t s key v = .ok s') (hk : k' ≠ normKey key) : storeGet s' k' = storeGet s k' := by
  rcases setAttr_ok_cases h with ⟨-, rfl⟩ | ⟨-, rfl⟩
  · exact storeGet_del_other _ _ _ hk
  · exact storeGet_set_other _ _ _ _ hk

/-- no attribute is ever stored twice (duplicate attributes would make the output ill-formed) -/
theorem setAttr_keys_nodup (validate : Nat → PyVal → Res) (t : Tbl) (s s' : Store) (key : String) (v : PyVal)
    (hn : (s.map (·.1)).Nodup) (h : setAttr validate t s key v = .ok s') : (s'.map (·.1)).Nodup := by
  rcases setAttr_ok_cases h with ⟨-, rfl⟩ | ⟨-, rfl⟩
  · exact nodup_keys_storeDel s _ hn
  · exact nodup_keys_storeSet s _ v hn

/-- non-vacuity: a store with distinct keys, an accepted assignment, another key left alone -/
example : ([("font-size", PyVal.int 1)].map (·.1)).Nodup ∧
    (match setAttr (fun _ _ => .ok) [("font-size", 7, false), ("color", 3, false)] [("font-size", .int 1)] "color" (.int 2) with
      | .ok s => storeGet s "font-size" == some (.int 1) | .error _ => false) = true := by decide

example : (match setAttr (fun _ _ => .ok) [("font-size", 7, false)] [] "font_size" (.int 12) with
    | .ok s => s.map (·.1) | .error _ => []) = ["font-size"] := by decide
end C04

#print axioms C04.setAttr_ok_iff
#print axioms C04.setAttr_error_stores_nothing
#print axioms C04.setAttr_none_removes
#print axioms C04.setAttr_stores
#print axioms C04.missingRequired_nil_iff
#print axioms C04.serialised_eq_store
#print axioms C04.normKey_idem
#print axioms C04.storeGet_set_other
#print axioms C04.storeGet_del_other
#print axioms C04.setAttr_frame
#print axioms C04.setAttr_keys_nodup
#print axioms C15.reserved_collisions
#print axioms C15.attr_names_no_underscore
