import MxV.Props.Slotted
/-! # C06 — no child is ever lost, duplicated or orphaned
Model side (Tame templates, all histories): the schema-ordered view is a permutation of the
insertion-ordered view; the insertion-ordered view *is* the ledger (a successful add appends the
child, a remove deletes it, a replace substitutes it in place, a failed call changes nothing);
with fresh child ids no child occurs twice, so the serialisation (which walks the ordered view)
contains each exactly once. Parent pointers are checked by the correspondence run.
The same on the 78 `Slotted` templates: `Slotted.C06_slotted`. Partial: the remaining 16 types (open findings: zombies after a failed intelligent choice, lost children after
re-homing / pruning). -/
namespace C06
open Msimple

/-- both views hold the same children -/
theorem ordered_perm (p : Particle) (k : Kids) (hi : Inv p k) (_ht : isTame p = true) :
    (ordered p k).Perm k := by
  rw [Tame.ordered_eq _ht hi.1]
  exact Slotted.ordered_perm_slotted p (Mslot.isSlotted_iff.1 (Tame.isSlotted_of_isTame _ht)).2 k hi.1

theorem add_appends {p k k' c n f} (hi : Inv p k) (h : add p k c n f = .ok k') : k' = k ++ [(c, n)] :=
  add_ok h
theorem remove_deletes {p k k' c} (hi : Inv p k) (h : remove k c = .ok k') :
    k' = k.filter (fun x => x.1 != c) :=
  remove_ok h
theorem failed_changes_nothing (p : Particle) (k : Kids) (op : Op) (e : Err) (h : step p k op = .error e) :
    apply p k op = k := by simp [apply, h]

def fresh : List Nat → List Op → Prop
  | _, [] => True
  | seen, .add c _ _ :: r => c ∉ seen ∧ fresh (c :: seen) r
  | seen, .rm _ :: r => fresh seen r
  | seen, .repl _ nw _ :: r => nw ∉ seen ∧ fresh (nw :: seen) r

theorem fresh_iff (seen : List Nat) (ops : List Op) : fresh seen ops ↔ Slotted.fresh seen ops := by
  induction ops generalizing seen with
  | nil => exact Iff.rfl
  | cons op r ih => cases op <;> simp only [fresh, Slotted.fresh, ih]

theorem ids_nodup_run (p : Particle) (ops : List Op) (hf : fresh [] ops) : (ids (run p ops)).Nodup :=
  Slotted.ids_nodup_foldl (apply_ledger p) ops ((fresh_iff [] ops).1 hf)

/-- C06 on Tame templates, for every history with fresh child objects: the two views are
    permutations of each other and no child occurs twice in either (hence once in the output) -/
theorem C06_tame (p : Particle) (ht : isTame p = true) (ops : List Op) (hf : fresh [] ops) :
    (ordered p (run p ops)).Perm (run p ops) ∧ (ids (run p ops)).Nodup ∧
    (ids (ordered p (run p ops))).Nodup := by
  have hp := ordered_perm p (run p ops) (Tame.inv_run ht ops) ht
  have hn := ids_nodup_run p ops hf
  exact ⟨hp, hn, (hp.map _).nodup_iff.2 hn⟩

example : let p : Particle := .seq 1 (some 1) [.elem 0 1 (some 1), .elem 1 0 none, .elem 2 1 (some 1)]
    ids (ordered p (run p [.add 1 2 none, .add 2 1 none, .add 3 0 none, .add 4 1 none, .rm 2, .repl 4 5 1])) = [3, 5, 1] := by
  decide
end C06

#print axioms C06.ordered_perm
#print axioms C06.ids_nodup_run
#print axioms C06.C06_tame
