import MxV.Props.C14
/-! # C10 — a failed operation changes nothing
In the model a raising call returns `Except.error` and the state that continues is the old one
(`Msimple.apply`); that the *code* behaves like this on `Tame` templates — nothing is touched before
the exception leaves `add_child` / `remove` / `replace_child` — is what the correspondence run of
this check establishes (observation before/after every failing call, twin without the call).
The theorems below are the model-side consequences the property names. Partial: `Wild` types, where
the code restructures before it raises (open findings). -/
namespace C10
open Msimple

theorem C10_tame (p : Particle) (k : Kids) (op : Op) (e : Err) (h : step p k op = .error e) :
    apply p k op = k := by simp [apply, h]

theorem run_append (p : Particle) (a b : List Op) :
    run p (a ++ b) = b.foldl (apply p) (run p a) := by simp [run, List.foldl_append]

/-- supplying what was missing afterwards succeeds exactly as if the failed call had never been made -/
theorem C10_then_supply (p : Particle) (a rest : List Op) (op : Op) (e : Err)
    (h : step p (run p a) op = .error e) : run p (a ++ op :: rest) = run p (a ++ rest) := by
  rw [run_append, run_append, List.foldl_cons, C10_tame p _ op e h]

/-- the final check never changes the state either (it is a function of the state) -/
theorem check_pure (p : Particle) (k : Kids) : (fun _ : List Nat => k) (required p k) = k := rfl

example : let p : Particle := .seq 1 (some 1) [.elem 0 1 (some 1), .elem 2 1 (some 1)]
    run p [.add 1 0 none, .add 2 0 none, .add 3 7 none, .rm 9, .add 4 2 none] = run p [.add 1 0 none, .add 4 2 none] := by
  decide

/-! ## attribute assignments (model `Element.setAttr`; history semantics `C14.runA`; tied to the code
by the element engine this check also runs) -/
section Attr
open Element Values

/-- attribute side: a refused assignment leaves the store exactly as it was (all tables, stores, keys, values) -/
theorem attr_failed_changes_nothing (validate : Nat → PyVal → Res) (t : Tbl) (s : Store) (op : String × PyVal)
    (e : AErr) (h : setAttr validate t s op.1 op.2 = .error e) : C14.stepA validate t s op = s := by
  simp [C14.stepA, h]

/-- … and the rest of the history proceeds as if the refused assignment had never been attempted -/
theorem attr_then_supply (validate : Nat → PyVal → Res) (t : Tbl) (s : Store) (a rest : List (String × PyVal))
    (op : String × PyVal) (e : AErr)
    (h : setAttr validate t (C14.runA validate t s a) op.1 op.2 = .error e) :
    C14.runA validate t s (a ++ op :: rest) = C14.runA validate t s (a ++ rest) := by
  unfold C14.runA at h ⊢
  rw [List.foldl_append, List.foldl_append, List.foldl_cons, attr_failed_changes_nothing validate t _ op e h]

example : (C14.runA (fun ty _ => if ty == 7 then .ok else .valueError) [("font-size", 7, false), ("color", 3, false)] []
      [("font_size", .int 1), ("color", .int 2), ("nope", .int 3), ("font-size", .int 4)] ==
    [("font-size", PyVal.int 4)]) = true := by decide
end Attr
end C10

#print axioms C10.C10_tame
#print axioms C10.C10_then_supply
#print axioms C10.attr_failed_changes_nothing
#print axioms C10.attr_then_supply
