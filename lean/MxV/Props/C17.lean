import MxV.Gen.Shapes
/-! # C17 — write() is all-or-nothing and file I/O does not depend on the process locale
The effect order of `XMLScorePartwise.write` and every `open()` / `read_text` / `write_text` site of
the runtime modules are extracted from the AST of the current source (Gen/Shapes.lean); the generic
theorems of `Model/Shapes.lean` are instantiated on them by kernel evaluation.
What the model cannot exhibit: partial writes caused by the OS after the text exists (disk full,
signals) — outside the property's statement ("before the document text exists"). -/
namespace C17
open Shapes Gen

theorem write_validates_first : validateFirst writeProg = true := by decide

/-- if to_string() raises, the previous content of the destination is untouched (any prior state) -/
theorem write_atomic (f : File) : (runIO writeProg none f).file = f :=
  atomic_if_validate_first writeProg write_validates_first f

theorem write_has_expected_shape :
    writeProg = writeShape "<?xml version=\"1.0\" encoding=\"UTF-8\" standalone=\"no\"?>\n" := rfl

/-- when it returns, the file holds the XML declaration followed by exactly to_string(), opened as
    UTF-8 text (`writeShape` fixes `encoding = utf-8`) -/
theorem write_content (s : String) (f : File) :
    (runIO writeProg (some s) f).file =
      some ("" ++ "<?xml version=\"1.0\" encoding=\"UTF-8\" standalone=\"no\"?>\n" ++ s) := by
  rw [write_has_expected_shape]; exact (content_on_success _ s f).1

theorem open_sites_locale_free : openSites.all localeFree = true := by decide

/-- no open() of the runtime modules consults the locale's default encoding -/
theorem io_locale_independent (l l' : String) :
    openSites.map (decodeWith · l) = openSites.map (decodeWith · l') :=
  locale_independent openSites open_sites_locale_free l l'

/-- non-vacuity: there are open sites, and write() really opens the file -/
example : openSites.length ≥ 2 ∧ writeProg.length = 5 := by decide

/-- what a successful write() leaves does not depend on what the destination held before (absent,
empty, an older document): overwriting is complete, nothing of the old content survives -/
theorem write_independent_of_old (s : String) (f f' : File) :
    (runIO writeProg (some s) f).file = (runIO writeProg (some s) f').file := by
  rw [write_content, write_content]

/-- writing the same document again changes nothing -/
theorem write_idempotent (s : String) (f : File) :
    (runIO writeProg (some s) (runIO writeProg (some s) f).file).file = (runIO writeProg (some s) f).file := by
  rw [write_content, write_content]

/-- a failed write after a successful one leaves the successful one's file -/
theorem failed_write_keeps_previous (s : String) (f : File) :
    (runIO writeProg none (runIO writeProg (some s) f).file).file = (runIO writeProg (some s) f).file :=
  write_atomic _
end C17

#print axioms C17.write_validates_first
#print axioms C17.write_atomic
#print axioms C17.write_has_expected_shape
#print axioms C17.write_content
#print axioms C17.open_sites_locale_free
#print axioms C17.io_locale_independent
#print axioms C17.write_independent_of_old
#print axioms C17.write_idempotent
#print axioms C17.failed_write_keeps_previous
