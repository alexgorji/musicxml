import MxV.Props.Slotted
import MxV.Props.C04
/-! # C11 — removing a child restores the behaviour the element had without it
On `Tame` templates the whole observable state of the model is the insertion-ordered list of
live children, so the property is the *rebuild* theorem: every reachable state — after any
history with removals at any position — is exactly the state a fresh element reaches when the
remaining children are added in the same relative order. Observational equivalence (same
serialisation / missing-children verdict / acceptance of every further child) then is equality
of states. This is true of the code only since the repair `fix: remove() resets the validation
flags…`; before it the code carried extra state (`force_validate`) the model does not have and the
correspondence disagreed on 42 types. Partial: `Wild` types (open findings). -/
namespace C11
open Msimple

theorem C11_rebuild (p : Particle) (ht : isTame p = true) (k : Kids) (hi : Inv p k) :
    runE p [] (addOpsK k) = .ok k := by
  rw [Tame.runE_eq ht (Mslot.invS_nil p)]
  exact Slotted.C11_rebuild_slotted p (Tame.isSlotted_of_isTame ht) k ((Tame.inv_iff ht).1 hi)

/-- for every history: the state after it equals the state after re-adding its survivors -/
theorem C11_tame (p : Particle) (ht : isTame p = true) (ops : List Op) :
    runE p [] (addOpsK (run p ops)) = .ok (run p ops) :=
  C11_rebuild p ht _ (Tame.inv_run ht ops)

/-- in particular an optional child that was added and then removed leaves no trace -/
example : let p : Particle := .seq 1 (some 1) [.elem 0 1 (some 1), .seq 0 (some 1) [.elem 1 1 (some 1), .elem 2 1 (some 1)]]
    required p (run p [.add 1 0 none, .add 2 1 none, .rm 2]) = [] ∧
    required p (run p [.add 1 0 none, .add 2 1 none]) = [2] := by decide

/-! ## attribute side (model `Element.setAttr`, tied to the code by the element engine this check runs) -/
section Attr
open Element Values

/-- attribute side of "removing restores": setting an attribute that was not set and then assigning
None gives back the very store (order included), for every table, validator, store, key, value -/
theorem attr_set_then_remove (validate : Nat → PyVal → Res) (t : Tbl) (s s1 : Store) (key : String) (v : PyVal)
    (hv : v ≠ .none) (hfresh : s.any (·.1 == normKey key) = false)
    (h : setAttr validate t s key v = .ok s1) : setAttr validate t s1 key .none = .ok s := by
  obtain ⟨_, _, _, _, rfl⟩ := (C04.setAttr_ok_iff validate t s s1 key v hv).1 h
  exact congrArg Except.ok (Element.storeDel_storeSet_fresh s _ v hfresh)
end Attr
end C11

#print axioms C11.C11_rebuild
#print axioms C11.C11_tame
#print axioms C11.attr_set_then_remove
