import MxV.Tables.D_templates_equiv
import MxV.Tables.D_inst_templates_eq
import MxV.Tables.D_groups_eq
import MxV.Tables.D_elements_bijective
import MxV.Tables.D_name_rule_ok
import MxV.Tables.D_elem_projections_ok
import MxV.Tables.D_type_binding_eq
import MxV.Tables.D_attr_tables_eq
import MxV.Tables.D_attr_exceptions_bound
import MxV.Tables.D_attr_groups_eq
import MxV.Tables.D_attr_names_nodup
import MxV.Tables.D_simple_defs_eq
import MxV.Tables.D_simple_sub
import MxV.Tables.D_schema_copy_eq
/-! # C03 — every element class is a faithful translation of its XSD declaration

All statements are over the tables regenerated from `/repo`'s working tree (`Gen.impl*`) and
from the pinned schema (`Gen.spec*`); they are re-decided by the kernel on every run
(`decide +kernel` = kernel evaluation of a closed Boolean term over the *complete* finite table;
no axiom is added). -/
namespace C03
open Gen

/-- For every element-content type, the template the library built at import and the pinned
    schema's particle accept exactly the same child sequences. -/
theorem templates_lang_eq (k : Nat) (p q : Particle)
    (hp : lookup k implTemplates = some p) (hq : lookup k specTemplates = some q) (w : List Nat) :
    p.Lang w ↔ q.Lang w := by
  have h := templates_equiv
  simp only [templatesEquivB, Bool.and_eq_true, List.all_eq_true] at h
  have h1 := h.1 (k, p) (lookup_mem hp)
  simp only [hq] at h1
  exact Particle.equivB_sound h1 w

/-- ... and both are decided by the verified matcher. -/
theorem templates_accepts_eq (k : Nat) (p q : Particle)
    (hp : lookup k implTemplates = some p) (hq : lookup k specTemplates = some q) (w : List Nat) :
    p.accepts w = q.accepts w :=
  Bool.eq_iff_iff.2 <| (Particle.accepts_iff p w).trans <|
    (templates_lang_eq k p q hp hq w).trans (Particle.accepts_iff q w).symm

theorem inst_template_is_template (c k : Nat) (p : Particle) (h : (c, k, p) ∈ instTemplates) :
    lookup k implTemplates = some p := by
  have := inst_templates_eq
  simp only [instTemplatesB, List.all_eq_true] at this
  have h1 := this (c, k, p) h
  split at h1
  · rename_i q hq; rw [hq, Particle.beq_eq p q h1]
  · cases h1

end C03

#print axioms C03.templates_lang_eq
#print axioms C03.templates_accepts_eq
#print axioms C03.inst_template_is_template
#print axioms C03.groups_eq
#print axioms C03.elements_bijective
#print axioms C03.name_rule_ok
#print axioms C03.elem_projections_ok
#print axioms C03.type_binding_eq
#print axioms C03.attr_tables_eq
#print axioms C03.attr_exceptions_bound
#print axioms C03.attr_groups_eq
#print axioms C03.attr_names_nodup
#print axioms C03.simple_defs_eq
#print axioms C03.simple_sub
#print axioms C03.schema_copy_eq
