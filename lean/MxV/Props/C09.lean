import MxV.Props.C04
import MxV.Model.Parser
/-! # C09 — any schema-valid file is read without loss; nothing is silently dropped
Model side, for **every** attribute of every input: the attribute ladder either raises or stores the
attribute under its (hyphenated) name with one of the three readings of its text — it never returns
normally without it (`attr_not_silently_dropped`), and the attributes of one element do not disturb one
another: if the parser gets through the whole list, all of them are in the store (`all_attrs_kept`).
Since the repair `fix: the parser sets XML attributes through the attribute table…` this covers names
that collide with Python-side properties (`name`, `content`, `level`, `xsd_check`, `_*`). Children are
attached through the matcher, which either raises or holds the child (C06). Element text:
`C08.ladder_result_is_valid`.
Partial: first half ("every schema-valid file is accepted") inherits the domains of C02 (Tame
content models), C04/C05; namespaced attributes (`xml:lang`, `xlink:*`) arrive as `{uri}local` and are
refused (open finding F12); tail text is ignored by the parser (open finding F11b). -/
namespace C09
open Parser Element Values

def Kept (o : Oracle) (key v : String) (s' : Store) : Prop :=
  ∃ pv, storeGet s' (normKey key) = some pv ∧ (pv = .str v ∨ o.asInt = some pv ∨ o.asFloat = some pv)

theorem attrFloat_ok {set : PyVal → Except AErr Store} {o : Oracle} {s' : Store}
    (h : attrFloat set o = .ok s') : ∃ f, o.asFloat = some f ∧ set f = .ok s' := by
  unfold attrFloat at h
  split at h
  · exact ⟨_, ‹_›, h⟩
  · cases h

theorem attrInt_ok {set : PyVal → Except AErr Store} {o : Oracle} {s' : Store}
    (h : attrInt set o = .ok s') : (∃ z, o.asInt = some z ∧ set z = .ok s') ∨ attrFloat set o = .ok s' := by
  unfold attrInt at h
  split at h
  · split at h
    · cases h; exact .inl ⟨_, ‹_›, ‹_›⟩
    · exact .inr h
    · cases h
  · exact .inr h

theorem attrValue_ok {set : PyVal → Except AErr Store} {o : Oracle} {v : String} {s' : Store}
    (h : attrValue set o v = .ok s') : set (.str v) = .ok s' ∨ attrInt set o = .ok s' := by
  unfold attrValue at h
  split at h
  · cases h; exact .inl ‹_›
  · exact .inr h
  · exact .inr h
  · cases h

theorem ladder_reading (set : PyVal → Except AErr Store) (o : Oracle) (v : String) (s' : Store)
    (h : attrValue set o v = .ok s') :
    ∃ pv, set pv = .ok s' ∧ (pv = .str v ∨ o.asInt = some pv ∨ o.asFloat = some pv) := by
  rcases attrValue_ok h with h | h
  · exact ⟨_, h, .inl rfl⟩
  · rcases attrInt_ok h with ⟨z, hz, h⟩ | h
    · exact ⟨z, h, .inr (.inl hz)⟩
    · obtain ⟨f, hf, h⟩ := attrFloat_ok h
      exact ⟨f, h, .inr (.inr hf)⟩

/-- whatever rung succeeds, the resulting store is the result of one `setAttr` call -/
theorem ladder_is_a_set (set : PyVal → Except AErr Store) (o : Oracle) (v : String) (s' : Store)
    (h : attrValue set o v = .ok s') : ∃ pv, set pv = .ok s' :=
  (ladder_reading set o v s' h).imp fun _ => And.left

/-- an XML attribute is never dropped silently: if the ladder returns normally the attribute is in
    the store, under its schema name, with one of the three readings of its text -/
theorem attr_not_silently_dropped (validate : Nat → PyVal → Res) (t : Tbl) (s s' : Store) (key v : String)
    (o : Oracle) (hf : ∀ f, o.asFloat = some f → f ≠ .none) (hz : ∀ z, o.asInt = some z → z ≠ .none)
    (h : attrValue (fun pv => setAttr validate t s key pv) o v = .ok s') : Kept o key v s' := by
  obtain ⟨pv, hset, hpv⟩ := ladder_reading _ o v s' h
  have hne : pv ≠ .none := by
    rcases hpv with rfl | h | h
    · exact PyVal.noConfusion
    · exact hz pv h
    · exact hf pv h
  exact ⟨pv, C04.setAttr_stores validate t s s' key pv hne hset, hpv⟩

/-! ## the whole attribute list of an element
`parseAttrs` is the fold of the per-attribute step (`pattr` in Driver.lean, which the parsing harness
issues once per XML attribute in document order, stopping at the first error, exactly as
`_et_xml_to_music_xml` does). -/

/-- one XML attribute as the parser sees it: name, text, and what `int()` / `float()` make of the text -/
structure XAttr where
  key : String
  text : String
  o : Oracle

/-- `for k, v in node.attrib.items(): …` — the first attribute that raises aborts the parse -/
def parseAttrs (validate : Nat → PyVal → Res) (t : Tbl) : Store → List XAttr → Except AErr Store
  | s, [] => .ok s
  | s, a :: r =>
    match attrValue (fun pv => setAttr validate t s a.key pv) a.o a.text with
    | .ok s1 => parseAttrs validate t s1 r
    | .error e => .error e

theorem parseAttrs_cons_ok {validate : Nat → PyVal → Res} {t : Tbl} {s s' : Store} {a : XAttr} {r : List XAttr}
    (h : parseAttrs validate t s (a :: r) = .ok s') :
    ∃ s1, attrValue (fun pv => setAttr validate t s a.key pv) a.o a.text = .ok s1 ∧
      parseAttrs validate t s1 r = .ok s' := by
  unfold parseAttrs at h
  split at h
  · exact ⟨_, ‹_›, h⟩
  · cases h

theorem parseAttrs_frame (validate : Nat → PyVal → Res) (t : Tbl) (as : List XAttr) (s s' : Store) (k : String)
    (hk : ∀ a ∈ as, normKey a.key ≠ k) (h : parseAttrs validate t s as = .ok s') : storeGet s' k = storeGet s k := by
  induction as generalizing s with
  | nil => cases h; rfl
  | cons a r ih =>
    obtain ⟨s1, h1, h⟩ := parseAttrs_cons_ok h
    obtain ⟨pv, hpv⟩ := ladder_is_a_set _ _ _ _ h1
    rw [ih s1 (fun b hb => hk b (List.mem_cons_of_mem _ hb)) h]
    exact C04.setAttr_frame validate t s s1 a.key k pv hpv (fun e => hk a List.mem_cons_self e.symm)

/-- nothing is dropped from a whole attribute list: if the parser gets through the attributes of an
element (an XML parser guarantees their names are distinct), every one of them is in the final
store — the later ones do not disturb the earlier ones -/
theorem all_attrs_kept (validate : Nat → PyVal → Res) (t : Tbl) (as : List XAttr) (s s' : Store)
    (hd : (as.map fun a => normKey a.key).Nodup)
    (hf : ∀ a ∈ as, ∀ f, a.o.asFloat = some f → f ≠ .none) (hz : ∀ a ∈ as, ∀ z, a.o.asInt = some z → z ≠ .none)
    (h : parseAttrs validate t s as = .ok s') : ∀ a ∈ as, Kept a.o a.key a.text s' := by
  induction as generalizing s with
  | nil => intro a ha; cases ha
  | cons a r ih =>
    obtain ⟨s1, h1, h⟩ := parseAttrs_cons_ok h
    rw [List.map_cons, List.nodup_cons] at hd
    intro b hb
    cases hb with
    | head =>
      obtain ⟨pv, hget, hwhich⟩ := attr_not_silently_dropped validate t s s1 a.key a.text a.o
        (hf a List.mem_cons_self) (hz a List.mem_cons_self) h1
      refine ⟨pv, ?_, hwhich⟩
      rwa [parseAttrs_frame validate t r s1 s' (normKey a.key) (fun c hc e => hd.1 (List.mem_map.mpr ⟨c, hc, e⟩)) h]
    | tail _ hb' =>
      exact ih s1 hd.2 (fun c hc => hf c (List.mem_cons_of_mem _ hc)) (fun c hc => hz c (List.mem_cons_of_mem _ hc)) h b hb'
end C09

#print axioms C09.attr_not_silently_dropped
#print axioms C09.ladder_is_a_set
#print axioms C09.parseAttrs_frame
#print axioms C09.all_attrs_kept
