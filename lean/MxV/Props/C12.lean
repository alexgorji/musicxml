import MxV.Props.Slotted
/-! # C12 — where the schema fixes the order, insertion order does not matter
Proven domain: `Tame` templates, all valid multisets and all of their permutations (`Slotted.C12_slotted`:
the 78 `Slotted` templates).
On `Flat` templates the valid arrangement is unique and is what gets serialised (same-named
children in insertion order: `ordered` filters the insertion list per leaf); on `RootChoice`
templates every arrangement is valid and the supplied one is kept. -/
namespace C12
open Msimple

theorem C12_tame_perm (p : Particle) (ht : isTame p = true) (w w' : List Nat) (hw : p.Lang w)
    (hp : w'.Perm w) :
    runE p [] (addOps 1 w') = .ok (zipIds 1 w') ∧ required p (zipIds 1 w') = [] ∧
    p.Lang (names (ordered p (zipIds 1 w'))) ∧
    (isFlat p = true → names (ordered p (zipIds 1 w')) = w) := by
  have h := Slotted.C12_slotted p (Tame.isSlotted_of_isTame ht) w w' hw hp
  obtain ⟨hr, hq, ho⟩ := Tame.of_runES ht (Mslot.invS_nil p) h.1
  rw [hq, ho]
  refine ⟨hr, h.2.1, h.2.2, fun hf => ?_⟩
  -- a word of a Flat template is determined by its counts
  obtain ⟨hfl, hnd⟩ := isFlat_iff.1 hf
  rw [Mslot.names_ordered, names_zipIds, ← Mslot.render_flat w' p hfl, cnt_perm hp]
  exact ((Particle.flat_iff p hfl hnd w).1 hw).2.symm

/-- same-named children keep their insertion order in the serialised arrangement -/
theorem same_name_in_insertion_order (p : Particle) (hf : isFlat p = true) (k : Kids) (n : Nat) :
    (ordered p k).filter (fun c => c.2 == n) = if n ∈ p.leaves then k.filter (fun c => c.2 == n) else [] := by
  have hnd := (isFlat_iff.1 hf).2
  rw [ordered_flat hf]
  generalize p.leaves = L at hnd
  induction L with
  | nil => simp
  | cons m L ih =>
    simp only [List.nodup_cons] at hnd
    simp only [List.flatMap_cons, List.filter_append, List.filter_filter, ih hnd.2]
    by_cases hmn : m = n
    · subst hmn
      simp [hnd.1]
    · have h1 : ∀ c : Nat × Nat, (c.2 == n && c.2 == m) = false := by
        intro c
        by_cases h : c.2 = n
        · subst h; simp; exact fun h' => hmn h'.symm
        · simp [h]
      simp [h1, Ne.symm hmn]

end C12

#print axioms C12.C12_tame_perm
#print axioms C12.same_name_in_insertion_order
