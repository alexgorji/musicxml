import MxV.Core.MaxCount
/-! # C07, schema side: when is a set of children beyond completion?
`p.maxCount n` bounds the occurrences of `n` in every word of the content model
(`maxCount_bounds_every_word`); children that exceed it cannot be completed to a schema-valid
element whatever is added (`over_the_bound_is_hopeless`). On the
Slotted class the model never reaches such a state (every reachable state completes:
`Slotted.C07_complete_slotted`; `Slotted.C07_reject_needed_slotted` is the converse direction); the open C07 findings are of another kind — children the *schema* could still complete
but the matcher no longer can — and stay replayed on the real library only. -/
namespace C07
theorem maxCount_bounds_every_word (p : Particle) (n b : Nat) (hb : p.maxCount n = some b) (w : List Nat)
    (hw : p.Lang w) : occ_ n w ≤ b :=
  Particle.maxCount_bound n p w hw b hb

theorem over_the_bound_is_hopeless (p : Particle) (n b : Nat) (hb : p.maxCount n = some b) (children : List Nat)
    (h : b < occ_ n children) (w : List Nat) (hsub : ∀ x, occ_ x children ≤ occ_ x w) : ¬ p.Lang w :=
  Particle.not_completable hb h w hsub

/-- non-vacuity on a concrete content model: `(a, b?)` — two `a` are beyond completion -/
example : (Particle.seq 1 (some 1) [.elem 1 1 (some 1), .elem 2 0 (some 1)]).maxCount 1 = some 1 := by decide
end C07

#print axioms C07.maxCount_bounds_every_word
#print axioms C07.over_the_bound_is_hopeless
