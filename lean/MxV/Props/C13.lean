import MxV.Model.Msimple
import MxV.Props.C20
/-! # C13 — element instances are isolated from one another
The models are functional: an operation maps the state of *one* instance to a new state of that
instance, and a fresh instance starts from the empty child list whatever the world holds. `frame` /
`fresh_independent` state that for a world of instances, `isolation` / `isolation_worlds` for whole interleaved
histories; the *content* of the property is whether the code has this
structure, which is established by (a) the correspondence runs — two or three instances of the same
and of different classes interleaved, compared with the model run instance by instance, and a fresh
instance compared with one in a pristine subprocess — and (b) the translator's inventory of
class-level state: every class-body mutable container and every class-level cell written after
import is one of the known constant/lazily-published tables (re-decided every run). -/
namespace C13
open Msimple

/-- a world of element instances -/
abbrev World := Nat → Option Kids

def update (w : World) (i : Nat) (k : Kids) : World := fun j => if j = i then some k else w j

/-- one operation on instance `i` of template `p` -/
def opOn (p : Particle) (w : World) (i : Nat) (op : Op) : World :=
  match w i with
  | some k => update w i (apply p k op)
  | none => w

theorem frame (p : Particle) (w : World) (i j : Nat) (op : Op) (h : j ≠ i) : opOn p w i op j = w j := by
  unfold opOn
  cases hw : w i with
  | some k => simp [update, h]
  | none => rfl

/-- a freshly constructed instance is the same whatever happened before -/
def fresh (w : World) (i : Nat) : World := update w i []
theorem fresh_independent (w w' : World) (i : Nat) : fresh w i i = fresh w' i i := by simp [fresh, update]

/-- any interleaving of operations on any number of instances, each with its own template -/
def runW (tp : Nat → Particle) (w : World) (ops : List (Nat × Op)) : World :=
  ops.foldl (fun w o => opOn (tp o.1) w o.1 o.2) w

/-- the operations addressed to instance `j`, in order -/
def own (j : Nat) (ops : List (Nat × Op)) : List Op := (ops.filter (·.1 == j)).map (·.2)

theorem opOn_self (p : Particle) (w : World) (i : Nat) (k : Kids) (op : Op) (h : w i = some k) :
    opOn p w i op i = some (apply p k op) := by
  unfold opOn; rw [h]; simp [update]

/-- isolation for whole histories: after any interleaved history over all instances, instance `j`
is in the state its *own* operations alone produce from where it started — whatever the other
instances (same class or not) did in between -/
theorem isolation (tp : Nat → Particle) (ops : List (Nat × Op)) (w : World) (j : Nat) (k : Kids) (h : w j = some k) :
    runW tp w ops j = some ((own j ops).foldl (apply (tp j)) k) := by
  induction ops generalizing w k with
  | nil => exact h
  | cons o r ih =>
    rw [runW, List.foldl_cons, ← runW]
    by_cases hij : o.1 = j
    · subst hij
      rw [ih _ _ (opOn_self (tp o.1) w o.1 k o.2 h)]
      simp [own]
    · rw [ih _ k ((frame _ _ _ _ _ (Ne.symm hij)).trans h)]
      simp [own, hij]

/-- two worlds that agree on instance `j` agree on it after the same history, whatever else they hold -/
theorem isolation_worlds (tp : Nat → Particle) (ops : List (Nat × Op)) (w w' : World) (j : Nat) (k : Kids)
    (h : w j = some k) (h' : w' j = some k) : runW tp w ops j = runW tp w' ops j := by
  rw [isolation tp ops w j k h, isolation tp ops w' j k h']

/-- inventory of shared class-level state (translator, re-decided every run; decided in `Props/C20.lean`) -/
def knownMutables : List String := ["_PROPERTIES", "_TYPES", "_UNION", "_FORCED_PERMITTED", "_PERMITTED"]
def knownCells : List String := ["_XSD_ATTRIBUTES", "XSD_TREE", "_XSD_TREE"]
theorem class_mutables_known : Gen.classMutables.all (fun c => knownMutables.contains c.2.2) = true :=
  C20.class_mutables_known
theorem class_cells_known : Gen.classCells.all (fun c => knownCells.contains c.2.2.2) = true :=
  C20.class_cells_known
end C13

#print axioms C13.frame
#print axioms C13.fresh_independent
#print axioms C13.class_mutables_known
#print axioms C13.class_cells_known
#print axioms C13.isolation
#print axioms C13.isolation_worlds
