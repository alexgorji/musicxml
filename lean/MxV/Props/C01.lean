import MxV.Props.Slotted
/-! # C01 — serialised child structure is always valid against the MusicXML 4.0 schema

Proven domain `D`: the `Tame` templates (61 `Flat` + 7 `RootChoice` of the 94 element-content
types) × every history of add / forward-add / remove / same-name replace / failed attempts
(`Msimple.run`); `Props/Slotted.lean` has the same theorems on the 78 `Slotted` templates (model `Mslot`),
of which these are the Tame case. For the remaining 16 types no theorem is claimed (partial); there the
tie is the correspondence run against `Mfull` and the open findings.

`required p k = []` is the model's "final check passes"; `names (ordered p k)` is the child-name
word `to_string()` emits. -/
namespace C01
open Msimple

/-- every reachable state of a Tame element that passes the final check serialises a word of its
    (impl) content model -/
theorem C01_tame (p : Particle) (ht : isTame p = true) (k : Kids) (hi : Inv p k)
    (hv : required p k = []) : p.Lang (names (ordered p k)) := by
  rw [Tame.ordered_eq ht hi.1]
  rw [Tame.required_eq ht hi.1] at hv
  exact Slotted.C01_slotted p (Tame.isSlotted_of_isTame ht) k ((Tame.inv_iff ht).1 hi) hv

/-- ... for every operation history (no bound on its length) -/
theorem C01_reachable (p : Particle) (ht : isTame p = true) (ops : List Op)
    (hv : required p (run p ops) = []) : p.Lang (names (ordered p (run p ops))) :=
  C01_tame p ht _ (Tame.inv_run ht ops) hv

/-- ... and the word is accepted by the *pinned schema's* content model of the same type key
    (C03.templates_lang_eq, re-decided on the regenerated tables every run), as decided by the
    verified matcher `Particle.accepts`. -/
theorem C01_schema (key : Nat) (p q : Particle)
    (hp : C03.lookup key Gen.implTemplates = some p) (hq : C03.lookup key Gen.specTemplates = some q)
    (ht : isTame p = true) (ops : List Op) (hv : required p (run p ops) = []) :
    q.accepts (names (ordered p (run p ops))) = true :=
  (Particle.accepts_iff _ _).2 ((C03.templates_lang_eq key p q hp hq _).1 (C01_reachable p ht ops hv))

/-! non-vacuity: a concrete Flat template (pitch = step, alter?, octave) and a RootChoice -/
def pitchT : Particle := .seq 1 (some 1) [.elem 0 1 (some 1), .elem 1 0 (some 1), .elem 2 1 (some 1)]
def dynT : Particle := .choice 0 none [.elem 5 1 (some 1), .elem 6 1 (some 1)]
example : isTame pitchT = true ∧ isTame dynT = true := by decide
example : required pitchT (run pitchT [.add 1 2 none, .add 2 0 none, .add 3 7 none, .add 4 0 none, .rm 9]) = [] ∧
    names (ordered pitchT (run pitchT [.add 1 2 none, .add 2 0 none, .add 3 7 none, .add 4 0 none])) = [0, 2] := by
  decide
example : required pitchT (run pitchT [.add 1 2 none]) = [0] := by decide
/-! ## nested documents: every checked node of a tree -/

/-- a document: each node has its content-model template, its (reachable) child state and the
    sub-documents of its children -/
inductive Doc where
  | node (p : Particle) (k : Kids) (subs : List Doc)

mutual
/-- `_final_checks` recursion: the node's own check, then every child's -/
def Doc.checks : Doc → Bool
  | .node p k subs => (required p k == []) && Doc.checksL subs
def Doc.checksL : List Doc → Bool
  | [] => true
  | d :: ds => d.checks && Doc.checksL ds
end

mutual
def Doc.Good : Doc → Prop
  | .node p k subs => isTame p = true ∧ Inv p k ∧ Doc.GoodL subs
def Doc.GoodL : List Doc → Prop
  | [] => True
  | d :: ds => d.Good ∧ Doc.GoodL ds
end

mutual
def Doc.Valid : Doc → Prop
  | .node p k subs => p.Lang (names (ordered p k)) ∧ Doc.ValidL subs
def Doc.ValidL : List Doc → Prop
  | [] => True
  | d :: ds => d.Valid ∧ Doc.ValidL ds
end

mutual
theorem C01_tree : (d : Doc) → d.Good → d.checks = true → d.Valid
  | .node p k subs, hg, hc => by
    simp only [Doc.checks, Bool.and_eq_true, beq_iff_eq] at hc
    exact ⟨C01_tame p hg.1 k hg.2.1 hc.1, C01_treeL subs hg.2.2 hc.2⟩
theorem C01_treeL : (ds : List Doc) → Doc.GoodL ds → Doc.checksL ds = true → Doc.ValidL ds
  | [], _, _ => trivial
  | d :: ds, hg, hc => by
    simp only [Doc.checksL, Bool.and_eq_true] at hc
    exact ⟨C01_tree d hg.1 hc.1, C01_treeL ds hg.2 hc.2⟩
end
end C01

#print axioms C01.C01_tame
#print axioms C01.C01_reachable
#print axioms C01.C01_schema
#print axioms C01.C01_tree
