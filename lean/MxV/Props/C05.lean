import MxV.Model.Values
/-! # C05 — value validation matches the XSD simple types; emitted text is lexically valid
Model side (`Values.validate`, generic in the regenerated validator table):
* enumerated types accept exactly their literals (`enum_accepts_iff`);
* numeric facets are exact: an integer passes the facet check iff it lies within every declared
  inclusive/exclusive bound (`range_exact`, `minExclusive_exact`, `minInclusive_exact`), at the boundaries included;
* every `int` renders, via `str()`, as an XSD integer lexical form (`int_render_is_lexical` in
  `Props/C05x.lean`, all of ℤ); a float's text is `repr()` as supplied by CPython (dtoa trusted),
  which is a lexical xs:decimal exactly when it has no exponent and is finite — the open findings below;
* pattern types: see `Tables/D_patterns.lean` (library expression ≡ schema pattern, collapse, xs:date);
  unions: `union_accepts_iff_member`.
Partial (open findings F13/F14, with witnesses below): bools pass the integer/decimal gate and
render as `True`/`False`; exponent-form, `nan`, `inf` floats pass decimal types and render invalid
lexical forms; element-only/empty types accept any text. Pattern-typed strings are validated by the
verified matcher `RE.rmatch` on the translated pattern (translator trusted; compared with Python's
`re` by the correspondence run). -/
namespace C05
open Values

/-- a plain enumerated definition: str-typed, no union, no forced literals, no primitive setters -/
def PlainEnum (d : SimpleDef) : Prop :=
  d.pyTypes = [0] ∧ d.union = [] ∧ d.forced = [] ∧ d.permitted ≠ [] ∧ d.isNonNeg = false ∧ d.isPositive = false

theorem enum_accepts_iff (env : Env) (fuel : Nat) (d : SimpleDef) (h : PlainEnum d) (s : String) :
    validate env (fuel + 1) d (.str s) = .ok ↔ s ∈ d.permitted := by
  obtain ⟨h1, h2, h3, h4, h5, h6⟩ := h
  by_cases hs : s ∈ d.permitted <;> simp [validate, gateTypes, typeGate, inStrs, pyTypeOf, *]

/-- every non-literal string is rejected with ValueError (not silently accepted) -/
theorem enum_rejects_other (env : Env) (fuel : Nat) (d : SimpleDef) (h : PlainEnum d) (s : String)
    (hs : s ∉ d.permitted) : validate env (fuel + 1) d (.str s) ≠ .ok :=
  fun hok => hs ((enum_accepts_iff env fuel d h s).1 hok)

theorem cmpInt_int (z k : Int) : cmpInt (.int z) k = some (if z < k then -1 else if z == k then 0 else 1) := rfl

theorem cmpInt_int_sign (z k : Int) :
    ∃ c, cmpInt (.int z) k = some c ∧ (c < 0 ↔ z < k) ∧ (c ≤ 0 ↔ z ≤ k) ∧ (c > 0 ↔ k < z) := by
  refine ⟨_, cmpInt_int z k, ?_⟩
  split
  · omega
  · split <;> simp_all <;> omega

/-- kind 0 is `minLength`, a TypeError on a number; kinds above 3 are not facets the validator reads -/
theorem facetCheck_int_ok (z : Int) (fs : List (Nat × Int)) :
    facetCheck (.int z) fs = .ok ↔
      ∀ f ∈ fs, f.1 ≠ 0 ∧ (f.1 = 1 → f.2 < z) ∧ (f.1 = 2 → f.2 ≤ z) ∧ (f.1 = 3 → z ≤ f.2) := by
  induction fs with
  | nil => simp [facetCheck]
  | cons f r ih =>
    obtain ⟨k, n⟩ := f
    obtain ⟨c, hc, h1, h2, h3⟩ := cmpInt_int_sign z n
    rw [List.forall_mem_cons, ← ih]
    clear ih
    match k with
    | 0 => simp [facetCheck]
    | 1 | 2 | 3 => simp only [facetCheck, hc]; split <;> simp_all <;> omega
    | k + 4 => simp [facetCheck]

/-- `minInclusive a` + `maxInclusive b` (percent, midi-16, octave, …): exactly the closed range -/
theorem range_exact (z a b : Int) : facetCheck (.int z) [(2, a), (3, b)] = .ok ↔ a ≤ z ∧ z ≤ b := by
  simp [facetCheck_int_ok]

/-- `minExclusive a` (positive-decimal, positive-divisions): strictly above the bound -/
theorem minExclusive_exact (z a : Int) : facetCheck (.int z) [(1, a)] = .ok ↔ a < z := by
  simp [facetCheck_int_ok]

/-- `minInclusive a` (non-negative-decimal, trill-beats) -/
theorem minInclusive_exact (z a : Int) : facetCheck (.int z) [(2, a)] = .ok ↔ a ≤ z := by
  simp [facetCheck_int_ok]

/-- a plain pattern type over xs:token (color, time-only, ending-number, comma-separated-text,
    language, NMTOKEN, Name …): str-typed, no union / forced literal / enumeration, token base -/
def TokenPattern (d : SimpleDef) (k : Nat) : Prop :=
  d.pyTypes = [0] ∧ d.union = [] ∧ d.forced = [] ∧ d.permitted = [] ∧ d.pattern = some k ∧ d.base = 1 ∧
  d.isNonNeg = false ∧ d.isPositive = false

/-- a pattern type whose own restriction has no token / date / glyph-name pre-check (xs:date itself,
    ID, IDREF, NCName, the smufl glyph-name subtypes): the raw string is matched -/
def PlainPattern (d : SimpleDef) (k : Nat) : Prop :=
  d.pyTypes = [0] ∧ d.union = [] ∧ d.forced = [] ∧ d.permitted = [] ∧ d.pattern = some k ∧ d.base = 0 ∧
  d.isNonNeg = false ∧ d.isPositive = false

theorem TokenPattern.base {d : SimpleDef} {k : Nat} (h : TokenPattern d k) : d.base = 1 := h.2.2.2.2.2.1
theorem PlainPattern.base {d : SimpleDef} {k : Nat} (h : PlainPattern d k) : d.base = 0 := h.2.2.2.2.2.1

/-- a pattern type of either kind accepts a string exactly when its text (white-space-collapsed
    first, over xs:token) matches the type's expression in full and, for xs:date itself, names a day
    that exists: no other gate, no silent acceptance -/
theorem pattern_accepts_iff (env : Env) (fuel : Nat) (d : SimpleDef) (k : Nat) (r : RE Char)
    (h : PlainPattern d k ∨ TokenPattern d k) (hr : lookupPat k env.pats = some r) (s : String) :
    validate env (fuel + 1) d (.str s) = .ok ↔
      RE.rmatch r (if d.base = 1 then cleanedToken s else s).toList = true ∧
      ((d.key == env.dateKey) = true → dateDayOk (if d.base = 1 then cleanedToken s else s).toList = true) := by
  rcases h with ⟨h1, h2, h3, h4, h5, h6, h7, h8⟩ | ⟨h1, h2, h3, h4, h5, h6, h7, h8⟩ <;>
  · simp [validate, gateTypes, typeGate, inStrs, pyTypeOf, fullmatch, *]
    split <;> simp_all

theorem token_pattern_accepts_iff (env : Env) (fuel : Nat) (d : SimpleDef) (k : Nat) (r : RE Char)
    (h : TokenPattern d k) (hk : (d.key == env.dateKey) = false) (hr : lookupPat k env.pats = some r) (s : String) :
    validate env (fuel + 1) d (.str s) = .ok ↔ RE.rmatch r (cleanedToken s).toList = true := by
  simpa [h.base, hk] using pattern_accepts_iff env fuel d k r (.inr h) hr s

theorem plain_pattern_accepts_iff (env : Env) (fuel : Nat) (d : SimpleDef) (k : Nat) (r : RE Char)
    (h : PlainPattern d k) (hk : (d.key == env.dateKey) = false) (hr : lookupPat k env.pats = some r) (s : String) :
    validate env (fuel + 1) d (.str s) = .ok ↔ RE.rmatch r s.toList = true := by
  simpa [h.base, hk] using pattern_accepts_iff env fuel d k r (.inl h) hr s

/-- xs:date itself: the lexical expression **and** the day-of-month constraint of the value space
    (no 30 February, 29 February in leap years only — proleptic Gregorian, year 0 and negative years included) -/
theorem date_accepts_iff (env : Env) (fuel : Nat) (d : SimpleDef) (k : Nat) (r : RE Char)
    (h : PlainPattern d k) (hk : (d.key == env.dateKey) = true) (hr : lookupPat k env.pats = some r) (s : String) :
    validate env (fuel + 1) d (.str s) = .ok ↔ (RE.rmatch r s.toList = true ∧ dateDayOk s.toList = true) := by
  simpa [h.base, hk] using pattern_accepts_iff env fuel d k r (.inl h) hr s

/-- the calendar facts the check rests on, decided: lengths of February in 1900, 2000, 2024, year 0, year −4 -/
example : daysInMonth 1900 2 = 28 ∧ daysInMonth 2000 2 = 29 ∧ daysInMonth 2024 2 = 29 ∧ daysInMonth 2023 2 = 28 ∧
    daysInMonth 0 2 = 29 ∧ daysInMonth (-4) 2 = 29 ∧ daysInMonth (-1) 2 = 28 ∧ daysInMonth 2001 4 = 30 ∧
    daysInMonth 2001 12 = 31 := by decide
example : dateDayOk "2000-02-29".toList = true ∧ dateDayOk "1900-02-29".toList = false ∧
    dateDayOk "-0004-02-29+02:00".toList = true ∧ dateDayOk "2001-04-31Z".toList = false ∧
    dateDayOk "12345-02-29".toList = false := by decide

/-- a plain union type (font-size, yes-no-number): no literal of its own, members tried in order -/
def PlainUnion (d : SimpleDef) : Prop :=
  d.union ≠ [] ∧ d.forced = [] ∧ d.isNonNeg = false ∧ d.isPositive = false

/-- **any member of a union**: a union type accepts a value exactly when the value has one of the
    members' Python types and at least one member type accepts it (a member's TypeError just moves on
    to the next member; nothing else is consulted) -/
theorem union_accepts_iff_member (env : Env) (fuel : Nat) (d : SimpleDef) (h : PlainUnion d) (v : PyVal) :
    validate env (fuel + 1) d v = .ok ↔
      (typeGate (gateTypes env d) [] v = true ∧
       d.union.any (fun u => match lookupDef u env.defs with
         | some m => validate env fuel m v == .ok
         | Option.none => false) = true) := by
  obtain ⟨h1, h2, h3, h4⟩ := h
  have hne : d.union.isEmpty = false := by simpa using h1
  have hf : inStrs v [] = false := by cases v <;> rfl
  simp only [validate, h2, hf, hne, h3, h4, Bool.not_false, Bool.false_and]
  generalize (d.union.any _) = A
  generalize typeGate (gateTypes env d) [] v = G
  cases G <;> cases A <;> simp

/-- non-string values never pass such a type -/
theorem token_pattern_rejects_nonstring (env : Env) (fuel : Nat) (d : SimpleDef) (k : Nat)
    (h : TokenPattern d k) (z : Int) : validate env (fuel + 1) d (.int z) ≠ .ok := by
  obtain ⟨h1, h2, h3, -⟩ := h
  simp [validate, gateTypes, typeGate, inStrs, pyTypeOf, *]

/-! negative witnesses (open findings F13): values the validator accepts whose `str()` is not a
    lexical form of the XSD type -/
def intDef : SimpleDef :=
  { key := 0, pyTypes := [1], union := [], forced := [], permitted := [], pattern := Option.none, base := 0,
    facets := [], isInteger := true, isNonNeg := false, isPositive := false, isDecimal := false,
    isString := false }
def decDef : SimpleDef :=
  { key := 0, pyTypes := [2, 1], union := [], forced := [], permitted := [], pattern := Option.none, base := 0,
    facets := [], isInteger := false, isNonNeg := false, isPositive := false, isDecimal := true,
    isString := false }
def env0 : Env := { defs := [], pats := [], datePat := Option.none }
theorem bool_passes_integer : (validate env0 3 intDef (.bool true) == .ok && pyStr (.bool true) == "True") = true := by
  decide +kernel
theorem exponent_float_passes_decimal :
    (validate env0 3 decDef (.float false 1 (-5) "1e-05") == .ok && pyStr (.float false 1 (-5) "1e-05") == "1e-05") = true := by
  decide +kernel
theorem nan_passes_decimal : (validate env0 3 decDef .fnan == .ok && pyStr .fnan == "nan") = true := by decide +kernel
end C05

#print axioms C05.enum_accepts_iff
#print axioms C05.enum_rejects_other
#print axioms C05.range_exact
#print axioms C05.minExclusive_exact
#print axioms C05.minInclusive_exact
#print axioms C05.token_pattern_accepts_iff
#print axioms C05.plain_pattern_accepts_iff
#print axioms C05.date_accepts_iff
#print axioms C05.union_accepts_iff_member
#print axioms C05.token_pattern_rejects_nonstring
#print axioms C05.bool_passes_integer
#print axioms C05.exponent_float_passes_decimal
#print axioms C05.nan_passes_decimal
