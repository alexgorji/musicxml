import MxV.Core.SRE
import MxV.Model.Values
/-! # C05 — integers are written in the lexical space of xs:integer, stated with the schema's own expression
`intLexS` is `[\-+]?[0-9]+` (XML Schema part 2, 3.3.13.1); `int_renders_in_xs_integer`: for every
`z : ℤ`, the text `str(z)` the library writes is matched by it (verified matcher, all of ℤ). -/
namespace C05
open Values SRE

/-- `[\-+]?[0-9]+` as a Boolean test -/
def isIntegerLexical : List Char → Bool
  | '-' :: r => !r.isEmpty && r.all Char.isDigit
  | '+' :: r => !r.isEmpty && r.all Char.isDigit
  | r => !r.isEmpty && r.all Char.isDigit

theorem digits_ok (n : Nat) : (Nat.toDigits 10 n).isEmpty = false ∧ (Nat.toDigits 10 n).all Char.isDigit = true :=
  ⟨by simp, List.all_eq_true.2 fun _ hc => Nat.isDigit_of_mem_toDigits (by decide) (by decide) hc⟩

theorem int_lexical_of_digits {l : List Char} (h1 : l.isEmpty = false) (h2 : l.all Char.isDigit = true) :
    isIntegerLexical l = true ∧ isIntegerLexical ('-' :: l) = true := by
  refine ⟨?_, by simp [isIntegerLexical, h1, h2]⟩
  unfold isIntegerLexical
  -- a sign in front is not a digit
  split
  · simp at h2
  · simp at h2
  · simp [h1, h2]

theorem int_render_is_lexical (z : Int) : isIntegerLexical (pyStr (.int z)).toList = true := by
  have h : (pyStr (.int z)).toList =
      if 0 ≤ z then Nat.toDigits 10 z.toNat else '-' :: Nat.toDigits 10 (-z).toNat := by
    simp only [pyStr, Int.toString_eq_repr, Int.repr_eq_if]
    split <;> simp [Nat.toList_repr]
  rw [h]
  split
  · exact (int_lexical_of_digits (digits_ok _).1 (digits_ok _).2).1
  · exact (int_lexical_of_digits (digits_ok _).1 (digits_ok _).2).2

def digitS : SRE := .cls false [(48, 57)]
def intLexS : SRE := .cat (.alt .eps (.cls false [(43, 43), (45, 45)])) (.cat digitS (.star digitS))

theorem isDigit_range {c : Char} (h : c.isDigit = true) : atomP false [(48, 57)] c.val.toNat = true := by
  simpa [Char.isDigit, atomP, inR, UInt32.le_iff_toNat_le] using h

theorem L_digits : ∀ {l : List Char}, l.isEmpty = false → l.all Char.isDigit = true →
    L (.cat digitS (.star digitS)) (l.map fun c => c.val.toNat)
  | c :: r, _, hd => by
    have hd : ∀ x ∈ c :: r, atomP false [(48, 57)] x.val.toNat = true := fun x hx =>
      isDigit_range (List.all_eq_true.1 hd x hx)
    exact .cat (u := [_]) (.atom (hd c List.mem_cons_self))
      (RE.matches_star_atom (by simpa using fun x hx => hd x (List.mem_cons_of_mem _ hx)))

theorem integerLexical_matches (l : List Char) (h : isIntegerLexical l = true) :
    RE.rmatch intLexS.toREc l = true := by
  rw [toREc, RE.rmatch_comap, RE.rmatch_iff]
  unfold isIntegerLexical at h
  split at h <;> simp only [Bool.and_eq_true, Bool.not_eq_true'] at h
  · exact .cat (u := [45]) (.altR (.atom (by decide))) (L_digits h.1 h.2)
  · exact .cat (u := [43]) (.altR (.atom (by decide))) (L_digits h.1 h.2)
  · exact .cat (u := []) (.altL .eps) (L_digits h.1 h.2)

/-- **every Python int is serialised as a valid xs:integer literal** -/
theorem int_renders_in_xs_integer (z : Int) : RE.rmatch intLexS.toREc (Values.pyStr (.int z)).toList = true :=
  integerLexical_matches _ (int_render_is_lexical z)

/-- `intLexS` is the expression the XSD-regex translator produces for `[\-+]?[0-9]+`, up to language (kernel-run of the verified checker) -/
theorem intLexS_is_the_schema_expression :
    SRE.equiv intLexS (SRE.seqs [SRE.bounded (SRE.cls false [(43, 43), (45, 45)]) 0 (some 1), SRE.bounded (SRE.cls false [(48, 57)]) 1 none]) = true := by
  decide +kernel
end C05

#print axioms C05.int_render_is_lexical
#print axioms C05.integerLexical_matches
#print axioms C05.int_renders_in_xs_integer
#print axioms C05.intLexS_is_the_schema_expression
