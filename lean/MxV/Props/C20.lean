import MxV.Gen.Shapes
/-! # C20 — independent documents can be built concurrently from several threads
The two lazily filled class-level attribute tables (`XSDComplexType.get_xsd_attributes`,
`XSDAttributeGroup.get_xsd_attributes`) are extracted from the AST; `publishAfterFill` is decided on
them, and `Shapes.publish_after_fill_safe` gives: for any number of threads and any schedule
(statement-granular), every thread gets the complete table (safety); `attribute_tables_progress`
adds progress: a thread that is given `n + 3` turns has returned the complete table, however the
other threads' turns are interleaved (no thread can be blocked or starved by the others' steps).
The other class-level cells written after import are single assignments of a completely built
object (listed in `classCells`, bounded by the table theorem below).
What the model cannot exhibit: pre-emption inside a bytecode of CPython's list/dict primitives
(assumed atomic under the GIL), free-threaded builds; per-instance state is not shared. -/
namespace C20
open Shapes Gen

theorem complex_publish_after_fill : publishAfterFill lazyComplex = true := by decide
theorem group_publish_after_fill : publishAfterFill lazyGroup = true := by decide

/-- any table size `n` (the number of append steps a particular type performs), any number of
    threads `m`, any schedule: whoever returns from get_xsd_attributes holds the complete table -/
theorem attribute_tables_thread_safe (n m : Nat) (sched : List Nat) :
    ∀ t ∈ (runSched n { cell := none, threads := List.replicate m .start } sched).threads,
      ∀ r, t = .done r → r = some n :=
  publish_after_fill_safe n m sched

/-- the class-level cells assigned inside functions of the runtime modules are exactly the known
    lazily initialised ones (a new shared cell makes this fail and is then examined) -/
def knownCells : List String := ["_XSD_ATTRIBUTES", "XSD_TREE", "_XSD_TREE"]
theorem class_cells_known : classCells.all (fun c => knownCells.contains c.2.2.2) = true := by decide

/-- class-body attributes holding a mutable container are the known constant tables (never mutated
    in place after import: `_PROPERTIES`, and the simple-type class constants) -/
def knownMutables : List String := ["_PROPERTIES", "_TYPES", "_UNION", "_FORCED_PERMITTED", "_PERMITTED"]
theorem class_mutables_known : classMutables.all (fun c => knownMutables.contains c.2.2) = true := by decide

/-- the lazily cached fields of the objects that hang off those tables (`XSDAttribute`, `XSDTree`: shared by all
    threads) are written with their final value in one assignment: no function assigns one of them twice on a path,
    so no provisional value is ever visible -/
theorem no_provisional_publication : provisionalPublications = [] := by decide

/-- the pre-repair shape (publish an empty list, then append to it) really is unsafe: see
    `Shapes.publish_then_fill_unsafe` (a 3-step schedule in which the second thread returns an
    empty table) -/
example : True := trivial

/-- steps thread state `t` still needs before it has returned (table of `n` items) -/
def remaining (n : Nat) : Th → Nat
  | .start => n + 3
  | .filling k => n - k + 2
  | .after => 1
  | .done _ => 0

theorem stepTh_remaining (n : Nat) (cell : Option Nat) (t : Th) :
    remaining n (stepTh n cell t).2 ≤ remaining n t - 1 := by
  cases t with
  | start => cases cell <;> simp [stepTh, remaining]
  | filling k => by_cases hk : k < n <;> simp only [stepTh, hk, if_true, if_false, remaining] <;> omega
  | after => simp [stepTh, remaining]
  | done r => simp [stepTh, remaining]

theorem rem_run (n : Nat) (sched : List Nat) (s : Sys) (i : Nat) (t : Th) (h : s.threads[i]? = some t) :
    ∃ t', (runSched n s sched).threads[i]? = some t' ∧ remaining n t' ≤ remaining n t - sched.count i := by
  induction sched generalizing s t with
  | nil => exact ⟨t, h, by simp⟩
  | cons j r ih =>
    have hs := stepSys_get n s j i
    rw [h] at hs
    by_cases hji : j = i
    · obtain ⟨t', h1, h2⟩ := ih _ (stepTh n s.cell t).2 (hs.trans (if_pos hji))
      have := stepTh_remaining n s.cell t
      exact ⟨t', h1, by simp [hji]; omega⟩
    · obtain ⟨t', h1, h2⟩ := ih _ t (hs.trans (if_neg hji))
      exact ⟨t', h1, by simpa [hji] using h2⟩

theorem progress (n : Nat) (sched : List Nat) (s : Sys) (i : Nat) (t : Th) (hs : SysInv n s)
    (h : s.threads[i]? = some t) (hturns : remaining n t ≤ sched.count i) :
    (runSched n s sched).threads[i]? = some (.done (some n)) := by
  obtain ⟨t', ht, hr⟩ := rem_run n sched s i t h
  rw [Nat.sub_eq_zero_of_le hturns] at hr
  cases t' with
  | done r => rw [ht, show r = some n from (runSched_inv n sched s hs).2 _ (List.mem_of_getElem? ht)]
  | _ => simp [remaining] at hr

/-- progress under *any* schedule: a thread that has been given `n + 3` turns (however the turns of
the other threads are interleaved) has returned, and what it returned is the complete table -/
theorem attribute_tables_progress (n m : Nat) (sched : List Nat) (i : Nat) (hi : i < m)
    (hturns : n + 3 ≤ sched.count i) :
    (runSched n { cell := none, threads := List.replicate m .start } sched).threads[i]? = some (.done (some n)) :=
  progress n sched _ i .start (sysInv_init n m) (by simp [hi]) hturns

example : (runSched 2 { cell := none, threads := List.replicate 2 .start } [0, 1, 0, 1, 0, 0, 1, 1, 0, 1]).threads[1]? =
    some (.done (some 2)) := attribute_tables_progress 2 2 _ 1 (by decide) (by decide)
end C20

#print axioms C20.complex_publish_after_fill
#print axioms C20.group_publish_after_fill
#print axioms C20.attribute_tables_thread_safe
#print axioms C20.class_cells_known
#print axioms C20.class_mutables_known
#print axioms C20.no_provisional_publication
#print axioms C20.stepTh_remaining
#print axioms C20.rem_run
#print axioms C20.attribute_tables_progress
