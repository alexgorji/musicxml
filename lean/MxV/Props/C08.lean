import MxV.Model.Parser
/-! # C08 — the library's own output re-parses to the same document
Model side: the typing ladder of the parser (`Parser.elementValue` / `attrValue`) preserves what the
writer emitted:
* text-typed content stays the very string (`str_stays_str`);
* integer-typed content comes back as the int (`int_stays_int`: the str and float rungs are refused
  by the type gate with TypeError, the int rung accepts) — integer types stay integers;
* decimal-typed content comes back as the float whose repr the oracle supplies
  (`decimal_comes_back_float`; `float(repr x) = x` is CPython's guarantee, trusted);
* a ValueError at any rung is not swallowed (`value_error_propagates`).
The whole-document statement (same elements, order, attributes, text; second round trip
byte-identical) is checked by the correspondence run on generated documents: real
`parse_musicxml` vs. model, and an infoset comparison of input and output. -/
namespace C08
open Parser Values

theorem str_stays_str (check : PyVal → Res) (t : String) (o : Oracle) (h : check (.str t) = .ok) :
    elementValue check t o = .ok (.str t) := by simp [elementValue, h]

theorem int_stays_int (check : PyVal → Res) (t : String) (f z : PyVal)
    (h1 : check (.str t) = .typeError) (h2 : check f = .typeError) (h3 : check z = .ok) :
    elementValue check t ⟨some f, some z⟩ = .ok z := by simp [elementValue, h1, h2, h3]

theorem decimal_comes_back_float (check : PyVal → Res) (t : String) (f : PyVal) (zi : Option PyVal)
    (h1 : check (.str t) = .typeError) (h2 : check f = .ok) :
    elementValue check t ⟨some f, zi⟩ = .ok f := by simp [elementValue, h1, h2]

theorem value_error_propagates (check : PyVal → Res) (t : String) (o : Oracle) (h : check (.str t) = .valueError) :
    elementValue check t o = .error .valueError := by simp [elementValue, h]

/-- whatever the ladder returns was accepted by the element's own type check -/
theorem ladder_result_is_valid (check : PyVal → Res) (t : String) (o : Oracle) (v : PyVal)
    (h : elementValue check t o = .ok v) : check v = .ok := by
  unfold elementValue at h
  repeat' split at h
  all_goals cases h
  all_goals assumption
end C08

#print axioms C08.str_stays_str
#print axioms C08.int_stays_int
#print axioms C08.decimal_comes_back_float
#print axioms C08.value_error_propagates
#print axioms C08.ladder_result_is_valid
