import MxV.Model.TameSlotted
import MxV.Props.C03
/-! # The matcher theorems on the wider `Slotted` class (78 of the 94 content models)
`Slotted ⊇ Tame`: sequences / groups whose positions are element leaves or choice slots of unit
leaves (adds measure, notations, listening, name-display, notehead-text, play, bend, harmonic,
instrument-change, score-instrument). The model is `Mslot` (Model/Mslot.lean), tied to the code by
the same correspondence run (and cross-checked against `Msimple` on the Tame templates).
The statements mirror C01 / C02 / C11 / C12 / C10 / C19, then C06 and C07 in sections of their own; the `Tame`
theorems of C01, C02, C06, C11, C12 and `C07_complete_flat` are their special cases (through
`Model/TameSlotted.lean`). -/
namespace Slotted
open Msimple Mslot

/-- C01: a reachable state that passes the final check serialises a word of the content model -/
theorem C01_slotted (p : Particle) (hs : isSlotted p = true) (k : Kids) (hi : InvS p k)
    (hv : Mslot.required p k = []) : p.Lang (names (Mslot.ordered p k)) := by
  have hsl := (isSlotted_iff.1 hs).1
  rw [names_ordered]
  exact lang_renderS _ p hsl ((okS_iff_missing _ p hsl hi.2).2 hv)

theorem C01_slotted_schema (key : Nat) (p q : Particle)
    (hp : C03.lookup key Gen.implTemplates = some p) (hq : C03.lookup key Gen.specTemplates = some q)
    (hs : isSlotted p = true) (ops : List Op) (hv : Mslot.required p (runS p ops) = []) :
    q.accepts (names (Mslot.ordered p (runS p ops))) = true :=
  (Particle.accepts_iff _ _).2 ((C03.templates_lang_eq key p q hp hq _).1 (C01_slotted p hs _ (invS_run p hs ops) hv))

theorem supply_ok (p : Particle) (hs : isSlotted p = true) (k : Kids) (i : Nat) (w : List Nat)
    (hsub : ∀ x ∈ w, x ∈ p.leaves) (hok : okS (names k ++ w) p = true) :
    runES p k (addOps i w) = .ok (k ++ zipIds i w) ∧ Mslot.required p (k ++ zipIds i w) = [] ∧
    names (Mslot.ordered p (k ++ zipIds i w)) = renderS (names k ++ w) p ∧ p.Lang (renderS (names k ++ w) p) := by
  have hsl := (isSlotted_iff.1 hs).1
  have hm := maxOK_of_okS _ p hok
  refine ⟨runES_adds p hs k i w hsub hm, ?_, ?_, lang_renderS _ p hsl hok⟩
  · rw [Mslot.required, names_append, names_zipIds]
    exact (okS_iff_missing _ p hsl hm).1 hok
  · rw [names_ordered, names_append, names_zipIds]

/-- C02: every word of the content model, supplied in order, is accepted, passes the final check and
    is serialised exactly as supplied -/
theorem C02_slotted (p : Particle) (hs : isSlotted p = true) (w : List Nat) (hw : p.Lang w) :
    runES p [] (addOps 1 w) = .ok (zipIds 1 w) ∧ Mslot.required p (zipIds 1 w) = [] ∧
    names (Mslot.ordered p (zipIds 1 w)) = w := by
  obtain ⟨hsl, hnd⟩ := isSlotted_iff.1 hs
  have h := (slotted_iff p hsl hnd w).1 hw
  have hsup := supply_ok p hs [] 1 w (Particle.Lang_subset p w hw) h.1
  exact ⟨hsup.1, hsup.2.1, hsup.2.2.1.trans h.2.symm⟩

/-- C12: every permutation of a valid multiset is accepted, passes the final check and is
    serialised as a word of the content model (on Flat parts: the unique arrangement) -/
theorem C12_slotted (p : Particle) (hs : isSlotted p = true) (w w' : List Nat) (hw : p.Lang w) (hp : w'.Perm w) :
    runES p [] (addOps 1 w') = .ok (zipIds 1 w') ∧ Mslot.required p (zipIds 1 w') = [] ∧
    p.Lang (names (Mslot.ordered p (zipIds 1 w'))) := by
  obtain ⟨hsl, hnd⟩ := isSlotted_iff.1 hs
  have h := (slotted_iff p hsl hnd w).1 hw
  have hsup := supply_ok p hs [] 1 w' (fun x hx => Particle.Lang_subset p w hw x (hp.mem_iff.1 hx))
    ((okS_perm w w' hp p).trans h.1)
  exact ⟨hsup.1, hsup.2.1, hsup.2.2.1 ▸ hsup.2.2.2⟩

/-- C11: every state that satisfies the invariant is rebuilt by adding its children to a fresh element -/
theorem C11_rebuild_slotted (p : Particle) (hs : isSlotted p = true) (k : Kids) (hi : InvS p k) :
    runES p [] (addOpsK k) = .ok k :=
  runES_addsK p hs [] k hi.1 hi.2

/-- C11: every reachable state is rebuilt by adding its surviving children to a fresh element -/
theorem C11_slotted (p : Particle) (hs : isSlotted p = true) (ops : List Op) :
    runES p [] (addOpsK (runS p ops)) = .ok (runS p ops) :=
  C11_rebuild_slotted p hs _ (invS_run p hs ops)

/-- C10: a raising call leaves the state as it was -/
theorem C10_slotted (p : Particle) (k : Kids) (op : Op) (e : Err) (h : stepS p k op = .error e) :
    applyS p k op = k := by simp [applyS, h]

/-- C19: without an explicit forward index every rejection is a documented kind -/
theorem C19_slotted (p : Particle) (k : Kids) (c n : Nat) (e : Err) (h : Mslot.add p k c n none = .error e) :
    e = .wrongElement ∨ e = .maxOccurs ∨ e = .anotherChosen := by
  simp only [Mslot.add, fwdCheck, addPlain] at h
  split at h <;> cases h <;> simp

/-! non-vacuity: the `measure`-shaped and `bend`-shaped templates are Slotted and not Tame -/
def measureT : Particle := .group 9 1 (some 1) (.seq 1 (some 1) [.choice 0 none [.elem 0 1 (some 1), .elem 1 1 (some 1)]])
def bendT : Particle := .seq 1 (some 1) [.elem 0 1 (some 1), .choice 0 (some 1) [.elem 1 1 (some 1), .elem 2 1 (some 1)], .elem 3 0 (some 1)]
example : isSlotted measureT = true ∧ isSlotted bendT = true ∧ isTame measureT = false ∧ isTame bendT = false := by decide
example : Mslot.required bendT (runS bendT [.add 1 3 none, .add 2 2 none, .add 3 1 none, .add 4 0 none]) = [] ∧
    names (Mslot.ordered bendT (runS bendT [.add 1 3 none, .add 2 2 none, .add 3 1 none, .add 4 0 none])) = [0, 2, 3] := by
  decide
/-- the slotted class really is what the 78 templates satisfy (re-decided on the regenerated table) -/
theorem slotted_count : (Gen.implTemplates.filter fun kp => isSlotted kp.2).length ≥ 78 := by decide +kernel
theorem tame_subset_slotted : (Gen.implTemplates.all fun kp => !isTame kp.2 || isSlotted kp.2) = true := by
  -- true of every particle (`Tame.isSlotted_of_isTame`), not only of those in the table
  rw [List.all_eq_true]
  intro kp _
  cases h : isTame kp.2
  · rfl
  · exact Tame.isSlotted_of_isTame h
/-! ## C06 on Slotted templates: the two child views hold the same children, each once -/

theorem blocksL_names : (ps : List Particle) → (blocksL ps).flatMap (·.names) = Particle.leavesL ps :=
  fun ps => Mslot.blocksL_names ps

theorem blocks_perm (bs : List Block) (hnd : (bs.flatMap (·.names)).Nodup) (k : Kids) :
    (bs.flatMap fun b => inBlock b k).Perm (k.filter fun c => (bs.flatMap (·.names)).contains c.2) := by
  induction bs with
  | nil => simp
  | cons b bs ih =>
    rw [List.flatMap_cons, List.nodup_append] at hnd
    simp only [List.flatMap_cons]
    -- among the children of `b :: bs`, those of `b` come first and the others are those of `bs`
    refine ((ih hnd.2.1).append_left _).trans
      (.trans (.of_eq ?_) (List.filter_append_perm (fun c => b.names.contains c.2) _))
    rw [List.filter_filter, List.filter_filter, inBlock]
    congr 1 <;> refine List.filter_congr fun c _ => ?_ <;> rw [List.contains_append]
    · cases b.names.contains c.2 <;> rfl
    · cases h : b.names.contains c.2
      · rfl
      · exact Bool.eq_false_iff.2 fun h' =>
          hnd.2.2 c.2 (List.contains_iff_mem.1 h) c.2 (List.contains_iff_mem.1 h') rfl

theorem ordered_perm_slotted (p : Particle) (hnd : p.leaves.Nodup) (k : Kids) (hk : ∀ c ∈ k, c.2 ∈ p.leaves) :
    (Mslot.ordered p k).Perm k := by
  refine (blocks_perm (blocks p) (Mslot.blocks_names p ▸ hnd) k).trans (.of_eq ?_)
  rw [Mslot.blocks_names]
  exact List.filter_eq_self.2 fun c hc => List.contains_iff_mem.2 (hk c hc)

/-- fresh child ids: an add or replace never brings an id that was used before -/
def fresh : List Nat → List Op → Prop
  | _, [] => True
  | seen, .add c _ _ :: r => c ∉ seen ∧ fresh (c :: seen) r
  | seen, .rm _ :: r => fresh seen r
  | seen, .repl _ nw _ :: r => nw ∉ seen ∧ fresh (nw :: seen) r

theorem count_ids_replFirst (old : Nat) (nw : Nat × Nat) (k : Kids) (x : Nat) :
    (ids (replFirst old nw k)).count x ≤ (nw.1 :: ids k).count x := by
  induction k with
  | nil => simp [replFirst, ids]
  | cons c r ih =>
    simp only [replFirst]
    split <;> simp only [ids, List.map_cons, List.count_cons] at ih ⊢ <;> omega

theorem ids_nodup_foldl {ap : Kids → Op → Kids} (hap : ∀ k op, ap k op = k ∨ ap k op = ledger k op)
    (ops : List Op) (hf : fresh [] ops) : (ids (ops.foldl ap [])).Nodup := by
  -- the invariant: no id is present more often than it was seen, and no id is seen twice
  have : ∀ (ops : List Op) (k : Kids) (seen : List Nat), seen.Nodup → (∀ x, (ids k).count x ≤ seen.count x) →
      fresh seen ops → (ids (ops.foldl ap k)).Nodup := by
    intro ops
    induction ops with
    | nil =>
      intro k seen hn hc _
      exact List.nodup_iff_count.2 fun x => Nat.le_trans (hc x) (List.nodup_iff_count.1 hn x)
    | cons op r ih =>
      intro k seen hn hc hf
      rw [List.foldl_cons]
      cases op with
      | add c n f =>
        refine ih _ (c :: seen) (List.nodup_cons.2 ⟨hf.1, hn⟩) (fun x => ?_) hf.2
        have h1 := hc x
        rcases hap k (.add c n f) with h | h <;> rw [h] <;>
          simp only [ledger, ids, List.map_append, List.map_cons, List.map_nil, List.count_append, List.count_cons,
            List.count_nil] at h1 ⊢ <;> omega
      | rm c =>
        refine ih _ seen hn (fun x => ?_) hf
        rcases hap k (.rm c) with h | h <;> rw [h]
        · exact hc x
        · exact Nat.le_trans ((List.filter_sublist.map _).count_le x) (hc x)
      | repl o nw n =>
        refine ih _ (nw :: seen) (List.nodup_cons.2 ⟨hf.1, hn⟩) (fun x => ?_) hf.2
        have h1 := hc x
        have h2 := count_ids_replFirst o (nw, n) k x
        rcases hap k (.repl o nw n) with h | h <;> rw [h] <;>
          simp only [ledger, List.count_cons] at h1 h2 ⊢ <;> omega
  exact this ops [] [] List.nodup_nil (fun _ => Nat.le_refl _) hf

/-- C06 on the 78 Slotted content models -/
theorem C06_slotted (p : Particle) (hs : isSlotted p = true) (ops : List Op) (hf : fresh [] ops) :
    (Mslot.ordered p (runS p ops)).Perm (runS p ops) ∧ (ids (runS p ops)).Nodup ∧
    (ids (Mslot.ordered p (runS p ops))).Nodup := by
  have hp := ordered_perm_slotted p (isSlotted_iff.1 hs).2 (runS p ops) (invS_run p hs ops).1
  have hn : (ids (runS p ops)).Nodup := ids_nodup_foldl (applyS_ledger p) ops hf
  exact ⟨hp, hn, (hp.map _).nodup_iff.2 hn⟩

mutual
/-- the children still to add: the under-filled element leaves and one child for every empty
    required slot, of every scope that is required or non-empty -/
def needS (c : Nat → Nat) : Particle → List Nat
  | .elem n mi _ => List.replicate (mi - c n) n
  | .seq mi _ ps => if mi == 0 && Particle.empL c ps then [] else needSL c ps
  | .choice mi _ ps => if decide (mi ≥ 1) && Particle.empL c ps then (Particle.leavesL ps).take 1 else []
  | .group _ mi _ p => if mi == 0 && p.emp c then [] else needS c p
def needSL (c : Nat → Nat) : List Particle → List Nat
  | [] => []
  | p :: ps => needS c p ++ needSL c ps
end

mutual
theorem needS_subset (c : Nat → Nat) : (p : Particle) → ∀ x ∈ needS c p, x ∈ p.leaves
  | .elem _ _ _ => fun _ hx => List.mem_singleton.2 (List.mem_replicate.1 hx).2
  | .seq _ _ ps => fun x hx => needSL_subset c ps x (mem_of_mem_ite_nil hx)
  | .choice _ _ ps => fun x hx => by
    simp only [needS] at hx
    split at hx
    · exact List.mem_of_mem_take hx
    · cases hx
  | .group _ _ _ p => fun x hx => needS_subset c p x (mem_of_mem_ite_nil hx)
theorem needSL_subset (c : Nat → Nat) : (ps : List Particle) → ∀ x ∈ needSL c ps, x ∈ Particle.leavesL ps
  | [] => nofun
  | p :: ps => fun x hx =>
    List.mem_append.2 ((List.mem_append.1 hx).imp (needS_subset c p x) (needSL_subset c ps x))
end

mutual
theorem needS_flat (c : Nat → Nat) : (p : Particle) → p.flat = true → needS c p = need c p
  | .elem _ _ _, _ => rfl
  | .seq _ _ ps, h => by simp only [needS, need, needSL_flat c ps (Particle.flat_seq h)]
  | .choice _ _ _, h => nomatch h
  | .group _ _ _ p, h => by simp only [needS, need, needS_flat c p (Particle.flat_group h)]
theorem needSL_flat (c : Nat → Nat) : (ps : List Particle) → Particle.flatL ps = true → needSL c ps = needL c ps
  | [], _ => rfl
  | p :: ps, h => by
    simp only [needSL, needL, needS_flat c p (Particle.flatL_cons h).1, needSL_flat c ps (Particle.flatL_cons h).2]
end

-- a scope that is optional and empty is left alone and stays empty; otherwise it is its content
theorem complete_scope {S e w nd : List Nat} {em : List Nat → Bool} {b x : Bool}
    (hcongr : restr S (w ++ e) = restr S w → em (w ++ e) = em w) (ih : restr S e = nd → x = true)
    (he : restr S e = if (b && em w) = true then [] else nd) : ((b && em (w ++ e)) || x) = true := by
  by_cases hc : (b && em w) = true
  · rw [if_pos hc] at he
    rw [hcongr (by rw [restr_append, he, List.append_nil]), hc, Bool.true_or]
  · rw [if_neg hc] at he
    rw [ih he, Bool.or_true]

-- what the completion looks like through the eyes of a sub-particle: a word `e` whose restriction
-- to the particle's leaves is the particle's own need
mutual
theorem complete_okS (w e : List Nat) : (p : Particle) → slotted p = true → p.leaves.Nodup →
    (p.specs.all fun s => leMax s.2.1 s.2.2) = true → maxOK w p = true →
    restr p.leaves e = needS (cnt w) p → okS (w ++ e) p = true
  | .elem n mi ma, _, _, hwf, hm, he => by
    have hc : cnt (w ++ e) n = cnt w n + (mi - cnt w n) := by
      rw [cnt_append, ← length_restr_single n e, show restr [n] e = List.replicate (mi - cnt w n) n from he,
        List.length_replicate]
    simp only [Particle.specs, List.all_cons, List.all_nil, Bool.and_true] at hwf
    simp only [maxOK, okS, hc, Bool.and_eq_true, decide_eq_true_eq, leMax_iff] at hm hwf ⊢
    exact ⟨by omega, fun m h => by have := hm m h; have := hwf m h; omega⟩
  | .seq mi ma ps, hs, hnd, hwf, hm, he =>
    complete_scope (em := fun v => Particle.empL (cnt v) ps) (fun h => Particle.empL_congr ps fun _ => cnt_of_restr_eq h)
      (completeL_okS w e ps (slotted_seq hs).2.2 hnd hwf hm) he
  | .choice mi ma ps, hs, _, _, hm, he => by
    obtain ⟨hmi, hne, hma, hu⟩ := slot_shape hs
    have hr : restr (Particle.leavesL ps) (w ++ e) =
        restr (Particle.leavesL ps) w ++ needS (cnt w) (.choice mi ma ps) := (restr_append ..).trans (congrArg _ he)
    simp only [maxOK, needS] at hm hr
    simp only [okS, Bool.and_eq_true, decide_eq_true_eq]
    by_cases hc : (decide (mi ≥ 1) && Particle.empL (cnt w) ps) = true
    · -- required and empty: its first name is added, and that is all it holds
      obtain ⟨a, r, hl⟩ := List.exists_cons_of_ne_nil (unit_leaves_ne_nil hne hu)
      rw [if_pos hc, (empL_iff_restr_nil w ps).1 (Bool.and_eq_true_iff.1 hc).2, congrArg (List.take 1) hl] at hr
      rw [hr]
      exact ⟨hmi, by rcases hma with rfl | rfl <;> rfl⟩
    · -- otherwise nothing is added, and it holds enough: `min ≤ 1`, and a required slot is not empty
      rw [if_neg hc, List.append_nil] at hr
      simp only [Bool.and_eq_true, decide_eq_true_eq, empL_iff_restr_nil, not_and] at hc
      rw [hr]
      refine ⟨?_, hm⟩
      by_cases h0 : mi = 0
      · omega
      · exact Nat.le_trans hmi (List.length_pos_iff.2 (hc (by omega)))
  | .group _ mi ma p, hs, hnd, hwf, hm, he =>
    complete_scope (em := fun v => p.emp (cnt v)) (fun h => Particle.emp_congr p fun _ => cnt_of_restr_eq h)
      (complete_okS w e p (slotted_group hs).2.2 hnd hwf hm) he
theorem completeL_okS (w e : List Nat) : (ps : List Particle) → slottedL ps = true → (Particle.leavesL ps).Nodup →
    ((Particle.specsL ps).all fun s => leMax s.2.1 s.2.2) = true → maxOKL w ps = true →
    restr (Particle.leavesL ps) e = needSL (cnt w) ps → okSL (w ++ e) ps = true
  | [], _, _, _, _, _ => rfl
  | p :: ps, hs, hnd, hwf, hm, he => by
    have hs := slottedL_cons hs
    obtain ⟨hn1, hn2, hdisj⟩ := Particle.nodup_leavesL_cons hnd
    simp only [Particle.specsL, List.all_append, Bool.and_eq_true] at hwf
    simp only [maxOKL, Bool.and_eq_true] at hm
    simp only [Particle.leavesL, needSL] at he
    -- restricting the equation to the leaves of p / of ps splits it
    have e1 : restr p.leaves e = needS (cnt w) p := by
      have := congrArg (restr p.leaves) he
      rwa [restr_restr_sub (by intro x hx; simp [hx]), restr_append_left fun x hx hp => hdisj x hp (needSL_subset _ ps x hx),
        restr_eq_self (needS_subset _ p)] at this
    have e2 : restr (Particle.leavesL ps) e = needSL (cnt w) ps := by
      have := congrArg (restr (Particle.leavesL ps)) he
      rwa [restr_restr_sub (by intro x hx; simp [hx]), restr_append_right fun x hx => hdisj x (needS_subset _ p x hx),
        restr_eq_self (needSL_subset _ ps)] at this
    rw [okSL, complete_okS w e p hs.1 hn1 hwf.1 hm.1 e1, completeL_okS w e ps hs.2 hn2 hwf.2 hm.2 e2]
    rfl
end

theorem completeL_ok (w e : List Nat) : (ps : List Particle) → slottedL ps = true → (Particle.leavesL ps).Nodup →
    ((Particle.specsL ps).all fun s => leMax s.2.1 s.2.2) = true → maxOKL w ps = true →
    restr (Particle.leavesL ps) e = needSL (cnt w) ps →
    maxOKL (w ++ e) ps = true ∧ Mslot.missingL (cnt (w ++ e)) ps = [] :=
  fun ps hs hnd hwf hm he =>
    have hok := completeL_okS w e ps hs hnd hwf hm he
    have hm' := maxOKL_of_okSL _ ps hok
    ⟨hm', (okSL_iff_missingL _ ps hs hm').1 hok⟩

/-- C07 on Slotted templates: every reachable state completes — the explicit completion is accepted
    child by child and the result passes the final check -/
theorem C07_complete_slotted (p : Particle) (hs : isSlotted p = true)
    (hwf : (p.specs.all fun s => leMax s.2.1 s.2.2) = true) (k : Kids) (hi : InvS p k) (i : Nat) :
    runES p k (addOps i (needS (cnt (names k)) p)) = .ok (k ++ zipIds i (needS (cnt (names k)) p)) ∧
    Mslot.required p (k ++ zipIds i (needS (cnt (names k)) p)) = [] := by
  obtain ⟨hsl, hnd⟩ := isSlotted_iff.1 hs
  have hsup := supply_ok p hs k i _ (needS_subset _ p)
    (complete_okS (names k) _ p hsl hnd hwf hi.2 (restr_eq_self (needS_subset _ p)))
  exact ⟨hsup.1, hsup.2.1⟩

/-- a child that is refused could not be part of any valid arrangement with the present children:
    no word of the content model has at least the present children plus the refused one -/
theorem C07_reject_needed_slotted (p : Particle) (hs : isSlotted p = true) (k : Kids) (_hi : InvS p k)
    (c n : Nat) (e : Err) (h : Mslot.add p k c n none = .error e) :
    ¬ ∃ w, p.Lang w ∧ (names k ++ [n]).Sublist w := by
  obtain ⟨hsl, hnd⟩ := isSlotted_iff.1 hs
  rintro ⟨w, hw, hsub⟩
  have hok := (slotted_iff p hsl hnd w).1 hw
  have hm := maxOK_sublist w _ hsub p (maxOK_of_okS w p hok.1)
  have hn : n ∈ p.leaves := Particle.Lang_subset p w hw n (hsub.subset (by simp))
  rw [add_none_ok hs k c hn hm] at h
  cases h
end Slotted

#print axioms Slotted.C01_slotted
#print axioms Slotted.C01_slotted_schema
#print axioms Slotted.C02_slotted
#print axioms Slotted.C12_slotted
#print axioms Slotted.C11_slotted
#print axioms Slotted.C10_slotted
#print axioms Slotted.C19_slotted
#print axioms Slotted.slotted_count
#print axioms Slotted.tame_subset_slotted
#print axioms Slotted.C06_slotted
#print axioms Slotted.C07_complete_slotted
#print axioms Slotted.C07_reject_needed_slotted
