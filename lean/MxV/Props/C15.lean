import MxV.Props.C04
/-! # C15 — shortcut syntax is equivalent to the explicit API
`Element.childShortcut` is the decision `e.xml_x = value` takes (xmlelement.py:76-100); the driver
carries the decision out with the *explicit* operations (replace_child / add_child / remove / value
assignment / constructing a new child), so agreement of the real `__setattr__` with the model on
every generated history *is* the equivalence the property states. The theorems pin the decision
table down; attribute shortcuts are `Element.setAttr` (C04), reads are `Element.getAttr`. -/
namespace C15
open Element

theorem instance_replaces_or_adds (found : Bool) :
    childShortcut true true found true false = (if found then .replace else .add) := by
  cases found <;> rfl
theorem none_removes (found : Bool) :
    childShortcut true true found false true = (if found then .remove else .nothing) := by
  cases found <;> rfl
theorem value_sets_or_builds (found : Bool) :
    childShortcut true true found false false = (if found then .setValue else .addNew) := by
  cases found <;> rfl
theorem unknown_name_is_attribute_error (c f i n : Bool) : childShortcut false c f i n = .attributeError := by
  simp [childShortcut]

/-- the underscore spelling of a key (`font-size` → `font_size`) -/
def under (k : String) : String := String.ofList (k.toList.map fun c => if c == '-' then '_' else c)

/-- both spellings normalise to the same schema name — for every key -/
theorem normKey_under (k : String) : normKey (under k) = normKey k :=
  Element.normKey_respell _ (fun c => by by_cases h : c = '-' <;> simp [h]) k

theorem normKey_idem (k : String) : normKey (normKey k) = normKey k := C04.normKey_idem k

/-- attribute assignment does not depend on the spelling of the key: for every table, store,
validator, key and value, `e.font_size = v` and `XMLx(**{'font-size': v})` take the same step -/
theorem setAttr_spelling (validate : Nat → Values.PyVal → Values.Res) (t : Tbl) (s : Store) (key : String) (v : Values.PyVal) :
    setAttr validate t s (under key) v = setAttr validate t s key v := by
  unfold setAttr; rw [normKey_under]

theorem setAttr_normalised (validate : Nat → Values.PyVal → Values.Res) (t : Tbl) (s : Store) (key : String) (v : Values.PyVal) :
    setAttr validate t s (normKey key) v = setAttr validate t s key v := by
  unfold setAttr; rw [normKey_idem]

/-- read-after-write through either spelling: a successful non-None assignment is what a dot read of
the same attribute (underscore or hyphen spelling) returns -/
theorem get_after_set (validate : Nat → Values.PyVal → Values.Res) (t : Tbl) (s s' : Store) (key key' : String) (v : Values.PyVal)
    (hv : v ≠ .none) (hk : normKey key' = normKey key) (h : setAttr validate t s key v = .ok s') :
    (match getAttr t s' key' with | .val w => w = v | _ => False) := by
  unfold getAttr
  rw [hk, C04.setAttr_stores validate t s s' key v hv h]

/-- assigning None through either spelling removes the attribute: the following read no longer
returns a value (None for a declared attribute, AttributeError otherwise) -/
theorem get_after_remove (validate : Nat → Values.PyVal → Values.Res) (t : Tbl) (s : Store) (key key' : String)
    (hk : normKey key' = normKey key) :
    ∃ s', setAttr validate t s key .none = .ok s' ∧
      (match getAttr t s' key' with | .val _ => False | _ => True) := by
  refine ⟨storeDel s (normKey key), rfl, ?_⟩
  unfold getAttr; rw [hk, Element.storeGet_del]
  generalize List.any t _ = declared
  cases declared <;> trivial

/-- the premises are met by the two spellings of any key, e.g. `font_size` / `font-size` -/
example : normKey (under "font-size") = normKey "font-size" ∧ under "font-size" = "font_size" :=
  ⟨normKey_under _, by decide⟩

/-- underscore spelling and hyphen spelling address the same child / attribute -/
example : shortcutChildName "xml_display_step" = "display-step" ∧ shortcutClassName "xml_display_step" = "XMLDisplayStep" := by
  decide
/-- reading a declared but unset attribute gives None, an undeclared one AttributeError -/
example : (match getAttr [("font-size", 1, false)] [] "font_size" with | .none => true | _ => false) = true ∧
    (match getAttr [("font-size", 1, false)] [] "colour" with | .attributeError => true | _ => false) = true := by
  decide
end C15

#print axioms C15.instance_replaces_or_adds
#print axioms C15.none_removes
#print axioms C15.value_sets_or_builds
#print axioms C15.unknown_name_is_attribute_error
#print axioms C15.element_names_no_underscore
#print axioms C15.attr_names_no_underscore
#print axioms C15.reserved_collisions
#print axioms C15.normKey_under
#print axioms C15.normKey_idem
#print axioms C15.setAttr_spelling
#print axioms C15.setAttr_normalised
#print axioms C15.get_after_set
#print axioms C15.get_after_remove
