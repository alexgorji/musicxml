import MxV.Props.Slotted
/-! # C02 — schema-valid child sequences are accepted and kept in document order
Proven domain: the `Tame` templates × **all** words of their languages (unbounded repetition
included); on the 78 `Slotted` templates: `Slotted.C02_slotted`. Partial for the remaining 16 types (no
theorem; open findings list rejected valid words). -/
namespace C02
open Msimple

/-- Every word of the content model, supplied one child at a time in document order, is accepted
    without an exception, passes the final check and is serialised exactly as supplied. -/
theorem C02_tame (p : Particle) (ht : isTame p = true) (w : List Nat) (hw : p.Lang w) :
    runE p [] (addOps 1 w) = .ok (zipIds 1 w) ∧ required p (zipIds 1 w) = [] ∧
    names (ordered p (zipIds 1 w)) = w := by
  have h := Slotted.C02_slotted p (Tame.isSlotted_of_isTame ht) w hw
  obtain ⟨hr, hq, ho⟩ := Tame.of_runES ht (Mslot.invS_nil p) h.1
  rw [hq, ho]
  exact ⟨hr, h.2⟩

/-- the same for the pinned schema's content model (via C03.templates_lang_eq) -/
theorem C02_schema (key : Nat) (p q : Particle)
    (hp : C03.lookup key Gen.implTemplates = some p) (hq : C03.lookup key Gen.specTemplates = some q)
    (ht : isTame p = true) (w : List Nat) (hw : q.accepts w = true) :
    runE p [] (addOps 1 w) = .ok (zipIds 1 w) ∧ required p (zipIds 1 w) = [] ∧
    names (ordered p (zipIds 1 w)) = w :=
  C02_tame p ht w ((C03.templates_lang_eq key p q hp hq w).2 ((Particle.accepts_iff _ _).1 hw))

/-! non-vacuity -/
def pitchT : Particle := .seq 1 (some 1) [.elem 0 1 (some 1), .elem 1 0 (some 1), .elem 2 1 (some 1)]
example : isTame pitchT = true ∧ pitchT.accepts [0, 1, 2] = true ∧ pitchT.accepts [0, 2] = true := by decide
example : (match runE pitchT [] (addOps 1 [0, 1, 2]) with | .ok k => k | .error _ => []) = [(1, 0), (2, 1), (3, 2)] := by decide
end C02

#print axioms C02.C02_tame
#print axioms C02.C02_schema
