import MxV.Core.Particle
/-! # An upper bound on how often a name can occur in any word of a content model
`p.maxCount n = some k`: no word of `p.Lang` contains `n` more than `k` times (`none`: no bound claimed).
Used to refute completability: children that already exceed the bound cannot be extended to a
schema-valid element, whatever is added. -/

def omul : Option Nat → Option Nat → Option Nat
  | _, some 0 => some 0
  | some a, some b => some (a * b)
  | _, _ => none

def oadd : Option Nat → Option Nat → Option Nat
  | some a, some b => some (a + b)
  | _, _ => none

def omax : Option Nat → Option Nat → Option Nat
  | some a, some b => some (max a b)
  | _, _ => none

mutual
def Particle.maxCount (n : Nat) : Particle → Option Nat
  | .elem m _ ma => if m == n then omul ma (some 1) else some 0
  | .seq _ ma ps => omul ma (Particle.maxCountSeq n ps)
  | .choice _ ma ps => omul ma (Particle.maxCountAlt n ps)
  | .group _ _ ma p => omul ma (p.maxCount n)
def Particle.maxCountSeq (n : Nat) : List Particle → Option Nat
  | [] => some 0
  | p :: ps => oadd (p.maxCount n) (Particle.maxCountSeq n ps)
def Particle.maxCountAlt (n : Nat) : List Particle → Option Nat
  | [] => some 0
  | p :: ps => omax (p.maxCount n) (Particle.maxCountAlt n ps)
end

def occ_ (n : Nat) (w : List Nat) : Nat := (w.filter (· == n)).length

theorem occ_append (n : Nat) (u v : List Nat) : occ_ n (u ++ v) = occ_ n u + occ_ n v := by
  simp [occ_, List.filter_append]

theorem occ_flatten_le (n k : Nat) : ∀ (ws : List (List Nat)), (∀ u ∈ ws, occ_ n u ≤ k) → occ_ n ws.flatten ≤ ws.length * k
  | [], _ => by simp [occ_]
  | u :: r, h => by
    have ih := occ_flatten_le n k r (fun x hx => h x (List.mem_cons_of_mem _ hx))
    have hu := h u List.mem_cons_self
    simp only [List.flatten_cons, occ_append, List.length_cons]
    rw [Nat.add_mul]; omega

theorem rep_bound {L : List Nat → Prop} {n k : Nat} (hL : ∀ u, L u → occ_ n u ≤ k) {mi : Nat} {ma : Option Nat}
    {w : List Nat} (hw : Rep L mi ma w) {b : Nat} (hb : omul ma (some k) = some b) : occ_ n w ≤ b := by
  obtain ⟨ws, _, hmax, hall, rfl⟩ := hw
  have hle := occ_flatten_le n k ws (fun u hu => hL u (hall u hu))
  cases k with
  | zero =>
    simp only [Nat.mul_zero, Nat.le_zero] at hle
    omega
  | succ k =>
    cases ma with
    | none => simp [omul] at hb
    | some m =>
      simp only [omul, Option.some.injEq] at hb
      subst hb
      exact Nat.le_trans hle (Nat.mul_le_mul_right _ (hmax m rfl))

theorem rep_bound_opt {L : List Nat → Prop} {n : Nat} {o : Option Nat} (hL : ∀ k, o = some k → ∀ u, L u → occ_ n u ≤ k)
    {mi : Nat} {ma : Option Nat} {w : List Nat} (hw : Rep L mi ma w) {b : Nat} (hb : omul ma o = some b) :
    occ_ n w ≤ b := by
  cases o with
  | none => cases ma <;> simp [omul] at hb
  | some k => exact rep_bound (hL k rfl) hw hb

theorem oadd_eq_some {x y : Option Nat} {b : Nat} (h : oadd x y = some b) : ∃ a c, x = some a ∧ y = some c ∧ a + c = b := by
  cases x <;> cases y <;> simp [oadd] at h
  exact ⟨_, _, rfl, rfl, h⟩

theorem omax_eq_some {x y : Option Nat} {b : Nat} (h : omax x y = some b) : ∃ a c, x = some a ∧ y = some c ∧ max a c = b := by
  cases x <;> cases y <;> simp [omax] at h
  exact ⟨_, _, rfl, rfl, h⟩

mutual
theorem Particle.maxCount_bound (n : Nat) : (p : Particle) → (w : List Nat) → p.Lang w → (b : Nat) → p.maxCount n = some b → occ_ n w ≤ b
  | .elem m mi ma, w, hw, b, hb => by
    simp only [Particle.maxCount] at hb
    split at hb
    · exact rep_bound (k := 1) (by rintro _ rfl; exact List.length_filter_le _ [m]) hw hb
    · rename_i hm
      cases hb
      exact rep_bound (k := 0) (by rintro _ rfl; simp [occ_, hm]) hw (by cases ma <;> rfl)
  | .seq mi ma ps, w, hw, b, hb => by
    exact rep_bound_opt (fun k hk u hu => Particle.maxCountSeq_bound n ps u hu k hk) hw hb
  | .choice mi ma ps, w, hw, b, hb => by
    exact rep_bound_opt (fun k hk u hu => Particle.maxCountAlt_bound n ps u hu k hk) hw hb
  | .group _ mi ma p, w, hw, b, hb => by
    exact rep_bound_opt (fun k hk u hu => Particle.maxCount_bound n p u hu k hk) hw hb
theorem Particle.maxCountSeq_bound (n : Nat) : (ps : List Particle) → (w : List Nat) → Particle.LangSeq ps w → (b : Nat) →
    Particle.maxCountSeq n ps = some b → occ_ n w ≤ b
  | [], w, hw, b, hb => by
    obtain rfl : w = [] := hw
    simp [occ_]
  | p :: ps, w, hw, b, hb => by
    obtain ⟨u, v, rfl, hu, hv⟩ := hw
    obtain ⟨a, c, h1, h2, rfl⟩ := oadd_eq_some hb
    have := Particle.maxCount_bound n p u hu a h1
    have := Particle.maxCountSeq_bound n ps v hv c h2
    rw [occ_append]; omega
theorem Particle.maxCountAlt_bound (n : Nat) : (ps : List Particle) → (w : List Nat) → Particle.LangAlt ps w → (b : Nat) →
    Particle.maxCountAlt n ps = some b → occ_ n w ≤ b
  | [], w, hw, b, hb => nomatch hw
  | p :: ps, w, hw, b, hb => by
    obtain ⟨a, c, h1, h2, rfl⟩ := omax_eq_some hb
    rcases hw with hw | hw
    · have := Particle.maxCount_bound n p w hw a h1
      omega
    · have := Particle.maxCountAlt_bound n ps w hw c h2
      omega
end

theorem Particle.not_completable {p : Particle} {n b : Nat} (hb : p.maxCount n = some b) {have_ : List Nat}
    (h : b < occ_ n have_) : ∀ w, (∀ x, occ_ x have_ ≤ occ_ x w) → ¬ p.Lang w := by
  intro w hsub hw
  have := Particle.maxCount_bound n p w hw b hb
  have := hsub n
  omega

#print axioms Particle.not_completable
