import MxV.Core.RE
/-! # SRE — first-order regular expressions over code points, with a verified equivalence checker

`RE α` has predicate atoms (functions), so two of them cannot be compared. `SRE` is the syntactic
fragment the translators emit: atoms are (possibly negated) unions of code-point ranges. On it

* `sd` is the Brzozowski derivative with normalising constructors (`mkAlt`: associativity,
  idempotence, `zero` unit; `mkCat`: `zero` absorbing, `eps` unit) — `sd_lang`: it is a derivative of the language;
* `equiv r s` explores the pairs of simultaneous derivatives over one representative code point per
  block of the partition that the atoms of `r` and `s` induce on ℕ, and answers `true` only when
  the explored set is a bisimulation;
* `equiv_sound : equiv r s = true → ∀ w, rmatch r.toRE w = rmatch s.toRE w` — for **all** words over
  **all** code points (and `equiv_sound_char` for `List Char`);
* `fastEquiv` is the same exploration arranged for evaluation inside the kernel; `equiv_of_fastEquiv` turns its
  answer into one of `equiv`.

Nothing here is specific to MusicXML. -/

namespace RE
variable {α β : Type}

def comap (f : α → β) : RE β → RE α
  | zero => zero | eps => eps
  | atom p => atom (fun a => p (f a))
  | alt r s => alt (comap f r) (comap f s)
  | cat r s => cat (comap f r) (comap f s)
  | star r => star (comap f r)

theorem nullable_comap (f : α → β) (r : RE β) : nullable (comap f r) = nullable r := by
  induction r <;> simp_all [comap, nullable]

theorem deriv_comap (f : α → β) (a : α) (r : RE β) : deriv a (comap f r) = comap f (deriv (f a) r) := by
  induction r <;> simp only [comap, deriv, nullable_comap, *] <;> split <;> rfl

theorem rmatch_comap (f : α → β) (r : RE β) (w : List α) : rmatch (comap f r) w = rmatch r (w.map f) := by
  induction w generalizing r with
  | nil => simp [rmatch, nullable_comap]
  | cons a w ih => simp [rmatch, deriv_comap, ih]
end RE

inductive SRE where
  | zero | eps
  | cls (neg : Bool) (rs : List (Nat × Nat))
  | alt (r s : SRE)
  | cat (r s : SRE)
  | star (r : SRE)
  deriving DecidableEq, Repr, Inhabited

namespace SRE

def inR (rs : List (Nat × Nat)) (n : Nat) : Bool := rs.any fun p => decide (p.1 ≤ n) && decide (n ≤ p.2)
def atomP (neg : Bool) (rs : List (Nat × Nat)) (n : Nat) : Bool := neg != inR rs n

def toRE : SRE → RE Nat
  | zero => .zero | eps => .eps
  | cls neg rs => .atom (atomP neg rs)
  | alt r s => .alt r.toRE s.toRE
  | cat r s => .cat r.toRE s.toRE
  | star r => .star r.toRE

/-- over `Char`: what the validator model runs -/
def toREc (r : SRE) : RE Char := RE.comap (fun c : Char => c.val.toNat) r.toRE

@[simp] abbrev L (r : SRE) (w : List Nat) : Prop := RE.Matches r.toRE w

def nullable : SRE → Bool
  | zero => false | eps => true | cls _ _ => false
  | alt r s => nullable r || nullable s
  | cat r s => nullable r && nullable s
  | star _ => true

theorem nullable_toRE (r : SRE) : RE.nullable r.toRE = nullable r := by
  induction r <;> simp_all [toRE, RE.nullable, nullable]

def altList : SRE → List SRE
  | alt r s => altList r ++ altList s
  | zero => []
  | r => [r]

def ofAltList : List SRE → SRE
  | [] => zero
  | [r] => r
  | r :: r' :: rs => alt r (ofAltList (r' :: rs))

def dedup : List SRE → List SRE
  | [] => []
  | x :: xs => if xs.contains x then dedup xs else x :: dedup xs

def mkAlt (r s : SRE) : SRE := ofAltList (dedup (altList r ++ altList s))

def mkCat (r s : SRE) : SRE :=
  if r = zero ∨ s = zero then zero
  else if r = eps then s
  else if s = eps then r
  else cat r s

theorem mem_dedup {a : SRE} {l : List SRE} : a ∈ dedup l ↔ a ∈ l := by
  induction l with
  | nil => rfl
  | cons x xs ih => simp only [dedup]; split <;> simp_all

/-! `mkAlt` behaves as `alt` for every property that fails for `zero` and distributes over `alt`:
    having a word in the language (`L_mkAlt`), containing an atom (`atoms_mkAlt`). -/
section mkAlt
variable {P : SRE → Prop} (h0 : ¬ P zero) (ha : ∀ r s, P (alt r s) ↔ P r ∨ P s)
include h0 ha

theorem ofAltList_iff : ∀ l : List SRE, P (ofAltList l) ↔ ∃ r ∈ l, P r
  | [] => by simp [ofAltList, h0]
  | [r] => by simp [ofAltList]
  | r :: r' :: rs => by simp [ofAltList, ha, ofAltList_iff (r' :: rs)]

theorem altList_iff (r : SRE) : (∃ x ∈ altList r, P x) ↔ P r := by
  induction r with
  | alt r s ihr ihs => simp [altList, ha, ← ihr, ← ihs, or_and_right, exists_or]
  | _ => simp [altList, h0]

theorem mkAlt_iff (r s : SRE) : P (mkAlt r s) ↔ P r ∨ P s := by
  simp [mkAlt, ofAltList_iff h0 ha, mem_dedup, ← altList_iff h0 ha r, ← altList_iff h0 ha s,
    or_and_right, exists_or]
end mkAlt

theorem L_mkAlt (r s : SRE) (w : List Nat) : L (mkAlt r s) w ↔ L r w ∨ L s w :=
  mkAlt_iff (P := (L · w)) RE.not_matches_zero (fun _ _ => RE.matches_alt) r s

theorem L_mkCat (r s : SRE) (w : List Nat) : L (mkCat r s) w ↔ ∃ u v, w = u ++ v ∧ L r u ∧ L s v := by
  unfold mkCat
  split
  · next h => rcases h with rfl | rfl <;> simp [toRE]
  split
  · next h =>
    subst h
    exact ⟨fun h => ⟨[], w, rfl, .eps, h⟩, fun ⟨_, _, e, h1, h⟩ => by cases h1; exact e ▸ h⟩
  split
  · next h => subst h; simp [toRE]
  · exact RE.matches_cat

def sd (a : Nat) : SRE → SRE
  | zero => zero | eps => zero
  | cls neg rs => if atomP neg rs a then eps else zero
  | alt r s => mkAlt (sd a r) (sd a s)
  | cat r s => if nullable r then mkAlt (mkCat (sd a r) s) (sd a s) else mkCat (sd a r) s
  | star r => mkCat (sd a r) (star r)

theorem sd_lang (a : Nat) (r : SRE) (w : List Nat) : L (sd a r) w ↔ L r (a :: w) := by
  refine Iff.trans ?_ (RE.deriv_iff _ a w)
  induction r generalizing w with
  | cls neg rs => simp only [sd, toRE, RE.deriv]; split <;> simp [toRE]
  | cat r s ihr ihs =>
    simp only [sd, toRE, RE.deriv, nullable_toRE]
    split <;> simp_all [L_mkAlt, L_mkCat, RE.matches_cat]
  | zero | eps => simp [sd, toRE, RE.deriv]
  | alt r s ihr ihs => simp [sd, toRE, RE.deriv, L_mkAlt, ihr, ihs]
  | star r ih => simp [sd, toRE, RE.deriv, L_mkCat, RE.matches_cat, ih]

def smatch (r : SRE) : List Nat → Bool
  | [] => nullable r
  | a :: w => smatch (sd a r) w

theorem smatch_iff (r : SRE) (w : List Nat) : smatch r w = true ↔ L r w := by
  induction w generalizing r with
  | nil => simp [smatch, ← nullable_toRE, RE.nullable_iff]
  | cons a w ih => simp [smatch, ih, sd_lang]

theorem smatch_eq (r : SRE) (w : List Nat) : smatch r w = RE.rmatch r.toRE w :=
  Bool.eq_iff_iff.2 ((smatch_iff r w).trans (RE.rmatch_iff _ w).symm)

def atoms : SRE → List (Bool × List (Nat × Nat))
  | zero => [] | eps => []
  | cls neg rs => [(neg, rs)]
  | alt r s => atoms r ++ atoms s
  | cat r s => atoms r ++ atoms s
  | star r => atoms r

def Agree (A : List (Bool × List (Nat × Nat))) (a b : Nat) : Prop :=
  ∀ p ∈ A, atomP p.1 p.2 a = atomP p.1 p.2 b

theorem atoms_mkAlt {p} {r s : SRE} : p ∈ atoms (mkAlt r s) ↔ p ∈ atoms r ∨ p ∈ atoms s :=
  mkAlt_iff (P := (p ∈ atoms ·)) (by simp [atoms]) (by simp [atoms]) r s

theorem atoms_mkCat {p} {r s : SRE} (h : p ∈ atoms (mkCat r s)) : p ∈ atoms r ∨ p ∈ atoms s := by
  unfold mkCat at h
  repeat' split at h
  all_goals simp_all [atoms]

theorem atoms_sd (a : Nat) (r : SRE) : atoms (sd a r) ⊆ atoms r := by
  intro p h
  induction r with
  | cls neg rs => simp only [sd] at h; split at h <;> simp [atoms] at h
  | alt r s ihr ihs =>
    simp only [sd, atoms_mkAlt] at h
    simp only [atoms, List.mem_append]
    exact h.imp ihr ihs
  | cat r s ihr ihs =>
    simp only [sd] at h
    simp only [atoms, List.mem_append]
    split at h
    · exact (atoms_mkAlt.1 h).elim (fun h => (atoms_mkCat h).imp_left ihr) (fun h => .inr (ihs h))
    · exact (atoms_mkCat h).imp_left ihr
  | star r ih => exact (atoms_mkCat h).elim ih id
  | _ => simp [sd, atoms] at h

theorem sd_congr {A} {a b : Nat} (h : Agree A a b) (r : SRE) (hr : atoms r ⊆ A) : sd a r = sd b r := by
  induction r with
  | zero | eps => rfl
  | cls neg rs => simp only [sd, h _ (hr List.mem_cons_self)]
  | alt r s ihr ihs | cat r s ihr ihs =>
    obtain ⟨h1, h2⟩ := List.append_subset.1 hr
    simp only [sd, ihr h1, ihs h2]
  | star r ih => simp only [sd, ih hr]

/-- range ends of all atoms: the block boundaries -/
def bounds (A : List (Bool × List (Nat × Nat))) : List Nat :=
  0 :: A.flatMap fun p => p.2.flatMap fun q => [q.1, q.2 + 1]

def floorB : List Nat → Nat → Nat
  | [], _ => 0
  | b :: bs, a => if b ≤ a ∧ floorB bs a ≤ b then b else floorB bs a

theorem floorB_le (bs : List Nat) (a : Nat) : floorB bs a ≤ a := by
  induction bs with
  | nil => simp [floorB]
  | cons b bs ih => simp only [floorB]; split <;> omega

theorem floorB_max {bs : List Nat} {a b : Nat} (hb : b ∈ bs) (hle : b ≤ a) : b ≤ floorB bs a := by
  induction bs with
  | nil => simp at hb
  | cons c cs ih =>
    simp only [floorB]
    rcases List.mem_cons.1 hb with rfl | hb
    · split <;> omega
    · have := ih hb
      split <;> omega

theorem floorB_mem (bs : List Nat) (a : Nat) : floorB bs a ∈ 0 :: bs := by
  induction bs with
  | nil => simp [floorB]
  | cons b bs ih => simp only [floorB]; split <;> simp_all [or_left_comm]

theorem inR_floor {bs : List Nat} {rs : List (Nat × Nat)}
    (h : ∀ q ∈ rs, q.1 ∈ bs ∧ q.2 + 1 ∈ bs) (a : Nat) : inR rs (floorB bs a) = inR rs a := by
  rw [Bool.eq_iff_iff]
  simp only [inR, List.any_eq_true, Bool.and_eq_true, decide_eq_true_eq]
  have hle := floorB_le bs a
  constructor
  · rintro ⟨q, hq, h1, h2⟩
    refine ⟨q, hq, by omega, Nat.le_of_not_lt fun hc => ?_⟩
    have := floorB_max (h q hq).2 hc
    omega
  · rintro ⟨q, hq, h1, h2⟩
    exact ⟨q, hq, floorB_max (h q hq).1 h1, by omega⟩

theorem agree_floor (A : List (Bool × List (Nat × Nat))) (a : Nat) : Agree A a (floorB (bounds A) a) := by
  intro p hp
  have h : ∀ q ∈ p.2, q.1 ∈ bounds A ∧ q.2 + 1 ∈ bounds A := fun q hq => by
    constructor <;>
      exact List.mem_cons_of_mem _ (List.mem_flatMap.2 ⟨p, hp, List.mem_flatMap.2 ⟨q, hq, by simp⟩⟩)
  simp only [atomP, inR_floor h a]

def checkEq (reps : List Nat) : Nat → List (SRE × SRE) → List (SRE × SRE) → Bool
  | _, [], _ => true
  | 0, _ :: _, _ => false
  | f + 1, p :: rest, seen =>
    if seen.contains p then checkEq reps f rest seen
    else if nullable p.1 != nullable p.2 then false
    else checkEq reps f (reps.map (fun a => (sd a p.1, sd a p.2)) ++ rest) (p :: seen)

def Good (reps : List Nat) (R : List (SRE × SRE)) (p : SRE × SRE) : Prop :=
  nullable p.1 = nullable p.2 ∧ ∀ a ∈ reps, (sd a p.1, sd a p.2) ∈ R

def explore (keep : SRE × SRE → Bool) (reps : List Nat) :
    Nat → List (SRE × SRE) → List (SRE × SRE) → Option (List (SRE × SRE))
  | _, [], seen => some seen
  | 0, _ :: _, _ => none
  | f + 1, p :: rest, seen =>
    if seen.contains p then explore keep reps f rest seen
    else if nullable p.1 != nullable p.2 then none
    else explore keep reps f ((reps.map fun a => (sd a p.1, sd a p.2)).filter keep ++ rest) (p :: seen)

theorem checkEq_eq_explore (reps : List Nat) (fuel : Nat) (todo seen : List (SRE × SRE)) :
    checkEq reps fuel todo seen = (explore (fun _ => true) reps fuel todo seen).isSome := by
  fun_induction checkEq reps fuel todo seen <;> simp_all [explore, List.filter_eq_self.2]

theorem explore_inv {keep : SRE × SRE → Bool} {reps : List Nat} {fuel : Nat} {todo seen R : List (SRE × SRE)}
    (h : explore keep reps fuel todo seen = some R) :
    seen ⊆ R ∧ todo ⊆ R ∧ ∀ p ∈ R, p ∈ seen ∨
      (nullable p.1 = nullable p.2 ∧ ∀ a ∈ reps, keep (sd a p.1, sd a p.2) = true → (sd a p.1, sd a p.2) ∈ R) := by
  fun_induction explore keep reps fuel todo seen with
  | case1 => cases h; exact ⟨fun _ h => h, nofun, fun _ => .inl⟩
  | case2 => cases h
  | case3 f p rest seen hc ih =>
    obtain ⟨h1, h2, h3⟩ := ih h
    exact ⟨h1, List.cons_subset.2 ⟨h1 (by simpa using hc), h2⟩, h3⟩
  | case4 => cases h
  | case5 f p rest seen hc hn ih =>
    obtain ⟨h1, h2, h3⟩ := ih h
    obtain ⟨hp, hs⟩ := List.cons_subset.1 h1
    obtain ⟨hd, hr⟩ := List.append_subset.1 h2
    refine ⟨hs, List.cons_subset.2 ⟨hp, hr⟩, fun q hq => ?_⟩
    rcases h3 q hq with hq | hg
    · rcases List.mem_cons.1 hq with rfl | hq
      · exact .inr ⟨by simpa using hn, fun a ha hk => hd (List.mem_filter.2 ⟨List.mem_map.2 ⟨a, ha, rfl⟩, hk⟩)⟩
      · exact .inl hq
    · exact .inr hg

theorem checkEq_inv {reps : List Nat} {fuel : Nat} {todo seen : List (SRE × SRE)}
    (h : checkEq reps fuel todo seen = true) :
    ∃ R : List (SRE × SRE), seen ⊆ R ∧ todo ⊆ R ∧ ∀ p ∈ R, p ∈ seen ∨ Good reps R p := by
  rw [checkEq_eq_explore, Option.isSome_iff_exists] at h
  obtain ⟨R, hR⟩ := h
  obtain ⟨h1, h2, h3⟩ := explore_inv hR
  exact ⟨R, h1, h2, fun p hp => (h3 p hp).imp_right fun ⟨hn, hc⟩ => ⟨hn, fun a ha => hc a ha rfl⟩⟩

theorem floor_mem_bounds (A : List (Bool × List (Nat × Nat))) (a : Nat) : floorB (bounds A) a ∈ bounds A :=
  (List.mem_cons.1 (floorB_mem _ a)).elim (· ▸ List.mem_cons_self) id

theorem bisim_sound (A : List (Bool × List (Nat × Nat))) (R : List (SRE × SRE))
    (hR : ∀ p ∈ R, Good (bounds A) R p) :
    ∀ (w : List Nat) (r s : SRE), (r, s) ∈ R → atoms r ⊆ A → atoms s ⊆ A → smatch r w = smatch s w := by
  intro w
  induction w with
  | nil => intro r s h _ _; exact (hR _ h).1
  | cons a w ih =>
    intro r s h hr hs
    simp only [smatch, sd_congr (agree_floor A a) r hr, sd_congr (agree_floor A a) s hs]
    exact ih _ _ ((hR _ h).2 _ (floor_mem_bounds A a)) ((atoms_sd _ r).trans hr) ((atoms_sd _ s).trans hs)

/-- fuel: the number of pairs taken from the queue -/
def equiv (r s : SRE) (fuel : Nat := 100000) : Bool :=
  checkEq (bounds (atoms r ++ atoms s)) fuel [(r, s)] []

/-- **soundness**: a `true` answer means the two expressions match exactly the same words, over all code points -/
theorem equiv_sound {r s : SRE} {fuel : Nat} (h : equiv r s fuel = true) (w : List Nat) :
    RE.rmatch r.toRE w = RE.rmatch s.toRE w := by
  obtain ⟨R, _, h2, h3⟩ := checkEq_inv h
  rw [← smatch_eq, ← smatch_eq]
  exact bisim_sound _ R (fun p hp => (h3 p hp).resolve_left nofun) w r s (h2 List.mem_cons_self)
    (List.subset_append_left ..) (List.subset_append_right ..)

theorem equiv_sound_char {r s : SRE} {fuel : Nat} (h : equiv r s fuel = true) (w : List Char) :
    RE.rmatch r.toREc w = RE.rmatch s.toREc w := by
  simp only [toREc, RE.rmatch_comap]; exact equiv_sound h _

/-! Inside the kernel `equiv` spends most of its time looking up pairs of two `zero`s in `seen`. `fastEquiv` explores
the same pairs without queueing those, and `checkEq_complete` — the converse of `checkEq_inv` for a given closed
set — turns its answer into one of `equiv`. -/

/-- `rem` lists the pairs of `R` not yet seen; visiting one queues `reps.length` pairs, whence the bound `hf` -/
theorem checkEq_complete {reps : List Nat} {R : List (SRE × SRE)} (hR : ∀ p ∈ R, Good reps R p)
    (fuel : Nat) (todo seen rem : List (SRE × SRE)) (ht : todo ⊆ R) (hrem : ∀ p ∈ R, p ∈ seen ∨ p ∈ rem)
    (hf : todo.length + reps.length * rem.length ≤ fuel) : checkEq reps fuel todo seen = true := by
  fun_induction checkEq reps fuel todo seen generalizing rem with
  | case1 => rfl
  | case2 => simp at hf
  | case3 f p rest seen hc ih =>
    exact ih rem (List.cons_subset.1 ht).2 hrem (by simp at hf; omega)
  | case4 f p rest seen hc hn =>
    exact absurd (hR p (ht List.mem_cons_self)).1 (by simpa using hn)
  | case5 f p rest seen hc hn ih =>
    obtain ⟨hp, hrest⟩ := List.cons_subset.1 ht
    have hpr : p ∈ rem := (hrem p hp).resolve_left (by simpa using hc)
    refine ih (rem.erase p) (List.append_subset.2 ⟨?_, hrest⟩) (fun q hq => ?_) ?_
    · intro q hq
      obtain ⟨a, ha, rfl⟩ := List.mem_map.1 hq
      exact (hR p hp).2 a ha
    · by_cases e : q = p
      · exact .inl (e ▸ List.mem_cons_self)
      · exact (hrem q hq).imp (List.mem_cons_of_mem _) ((List.mem_erase_of_ne e).2)
    · obtain ⟨k, hk⟩ := Nat.exists_eq_add_one.2 (List.length_pos_of_mem hpr)
      simp only [List.length_append, List.length_map, List.length_cons, List.length_erase_of_mem hpr, hk,
        Nat.mul_add_one, Nat.add_sub_cancel] at hf ⊢
      omega

/-- `equiv`, run over each representative once and without the `zero` pairs, which are closed on their own -/
def fastEquiv (r s : SRE) (fuel : Nat) : Bool :=
  match explore (· != (zero, zero)) (bounds (atoms r ++ atoms s)).eraseDups fuel [(r, s)] [] with
  | some R => decide (1 + (bounds (atoms r ++ atoms s)).length * (R.length + 1) ≤ fuel)
  | none => false

theorem equiv_of_fastEquiv {r s : SRE} {fuel : Nat} (h : fastEquiv r s fuel = true) : equiv r s fuel = true := by
  unfold fastEquiv at h
  split at h
  · next R hR =>
    obtain ⟨-, h2, h3⟩ := explore_inv hR
    refine checkEq_complete (R := (zero, zero) :: R) (fun p hp => ?_) _ _ _ _
      (List.cons_subset.2 ⟨List.mem_cons_of_mem _ (h2 List.mem_cons_self), nofun⟩) (fun _ => .inr)
      (by simpa using h)
    rcases List.mem_cons.1 hp with rfl | hp
    · exact ⟨rfl, fun _ _ => List.mem_cons_self⟩
    · obtain ⟨hn, hc⟩ := (h3 p hp).resolve_left nofun
      refine ⟨hn, fun a ha => ?_⟩
      by_cases e : (sd a p.1, sd a p.2) = (zero, zero)
      · exact e ▸ List.mem_cons_self
      · exact List.mem_cons_of_mem _ (hc a (List.mem_eraseDups.2 ha) (by simpa using e))
  · cases h

/-- a word on which the two expressions differ, if the exploration meets one (failing-input search;
    not part of any proof — its answer is checked by running `smatch` on it) -/
def findDiff (reps : List Nat) : Nat → List (SRE × SRE × List Nat) → List (SRE × SRE) → Option (List Nat)
  | _, [], _ => none
  | 0, _ :: _, _ => none
  | f + 1, (r, s, w) :: rest, seen =>
    if seen.contains (r, s) then findDiff reps f rest seen
    else if nullable r != nullable s then some w.reverse
    else findDiff reps f (rest ++ reps.map (fun a => (sd a r, sd a s, a :: w))) ((r, s) :: seen)

def witness (r s : SRE) (fuel : Nat := 100000) : Option (List Nat) :=
  findDiff (bounds (atoms r ++ atoms s)) fuel [(r, s, [])] []

/-! derived forms used by the translators -/
def rep (r : SRE) : Nat → SRE
  | 0 => eps
  | n + 1 => cat r (rep r n)
def opt (r : SRE) : Nat → SRE
  | 0 => eps
  | n + 1 => alt eps (cat r (opt r n))
/-- `r{lo,hi}`; `hi = none` is unbounded -/
def bounded (r : SRE) (lo : Nat) : Option Nat → SRE
  | none => cat (rep r lo) (star r)
  | some hi => cat (rep r lo) (opt r (hi - lo))
def seqs : List SRE → SRE
  | [] => eps
  | [r] => r
  | r :: r' :: rs => cat r (seqs (r' :: rs))
def alts : List SRE → SRE
  | [] => zero
  | [r] => r
  | r :: r' :: rs => alt r (alts (r' :: rs))
def lit (s : String) : SRE := seqs (s.toList.map fun c => cls false [(c.val.toNat, c.val.toNat)])

end SRE
