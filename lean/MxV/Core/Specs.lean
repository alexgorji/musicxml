import MxV.Core.Flat
/-! leaf specifications (name, min, max) in leaf order -/

mutual
def Particle.specs : Particle → List (Nat × Nat × Option Nat)
  | .elem n mi ma => [(n, mi, ma)]
  | .seq _ _ ps => Particle.specsL ps
  | .choice _ _ ps => Particle.specsL ps
  | .group _ _ _ p => p.specs
def Particle.specsL : List Particle → List (Nat × Nat × Option Nat)
  | [] => []
  | p :: ps => p.specs ++ Particle.specsL ps
end

mutual
theorem Particle.specs_names : (p : Particle) → p.specs.map (·.1) = p.leaves
  | .elem _ _ _ => rfl
  | .seq _ _ ps => Particle.specsL_names ps
  | .choice _ _ ps => Particle.specsL_names ps
  | .group _ _ _ p => Particle.specs_names p
theorem Particle.specsL_names : (ps : List Particle) → (Particle.specsL ps).map (·.1) = Particle.leavesL ps
  | [] => rfl
  | p :: ps => by simp [Particle.specsL, Particle.leavesL, Particle.specs_names p, Particle.specsL_names ps]
end
