/-! Regular expressions with predicate atoms: the language `Matches`, the Brzozowski derivative, and
    `rmatch_iff`: matching by repeated derivation decides `Matches`. -/
inductive RE (α : Type) where
  | zero | eps
  | atom (p : α → Bool)
  | alt (r s : RE α)
  | cat (r s : RE α)
  | star (r : RE α)

namespace RE
variable {α : Type}

inductive Matches : RE α → List α → Prop
  | eps : Matches .eps []
  | atom {p a} : p a = true → Matches (.atom p) [a]
  | altL {r s w} : Matches r w → Matches (.alt r s) w
  | altR {r s w} : Matches s w → Matches (.alt r s) w
  | cat {r s u v} : Matches r u → Matches s v → Matches (.cat r s) (u ++ v)
  | starNil {r} : Matches (.star r) []
  | starCons {r u v} : Matches r u → Matches (.star r) v → Matches (.star r) (u ++ v)

def nullable : RE α → Bool
  | zero => false | eps => true | atom _ => false
  | alt r s => nullable r || nullable s
  | cat r s => nullable r && nullable s
  | star _ => true

def deriv (a : α) : RE α → RE α
  | zero => zero | eps => zero
  | atom p => if p a then eps else zero
  | alt r s => alt (deriv a r) (deriv a s)
  | cat r s => if nullable r then alt (cat (deriv a r) s) (deriv a s) else cat (deriv a r) s
  | star r => cat (deriv a r) (star r)

def rmatch (r : RE α) : List α → Bool
  | [] => nullable r
  | a :: w => rmatch (deriv a r) w

variable {r s : RE α} {p : α → Bool} {a : α} {w : List α}

@[simp] theorem not_matches_zero : ¬ Matches (.zero : RE α) w := nofun

@[simp] theorem matches_eps : Matches (.eps : RE α) w ↔ w = [] :=
  ⟨fun h => by cases h; rfl, fun h => h ▸ .eps⟩

@[simp] theorem matches_atom : Matches (.atom p) w ↔ ∃ a, w = [a] ∧ p a = true :=
  ⟨fun h => by cases h with | atom hp => exact ⟨_, rfl, hp⟩, fun ⟨_, e, hp⟩ => e ▸ .atom hp⟩

@[simp] theorem matches_alt : Matches (.alt r s) w ↔ Matches r w ∨ Matches s w :=
  ⟨fun h => by cases h with | altL h => exact .inl h | altR h => exact .inr h, fun h => h.elim .altL .altR⟩

theorem matches_cat : Matches (.cat r s) w ↔ ∃ u v, w = u ++ v ∧ Matches r u ∧ Matches s v :=
  ⟨fun h => by cases h with | cat h1 h2 => exact ⟨_, _, rfl, h1, h2⟩, fun ⟨_, _, e, h1, h2⟩ => e ▸ .cat h1 h2⟩

theorem matches_cat_cons : Matches (.cat r s) (a :: w) ↔
    (Matches r [] ∧ Matches s (a :: w)) ∨ ∃ u v, w = u ++ v ∧ Matches r (a :: u) ∧ Matches s v := by
  simp only [matches_cat, List.cons_eq_append_iff]
  constructor
  · rintro ⟨u, v, ⟨rfl, rfl⟩ | ⟨u', rfl, rfl⟩, h1, h2⟩
    · exact .inl ⟨h1, h2⟩
    · exact .inr ⟨u', v, rfl, h1, h2⟩
  · rintro (⟨h1, h2⟩ | ⟨u, v, rfl, h1, h2⟩)
    · exact ⟨[], _, .inl ⟨rfl, rfl⟩, h1, h2⟩
    · exact ⟨_, v, .inr ⟨u, rfl, rfl⟩, h1, h2⟩

theorem matches_star_cons : Matches (.star r) (a :: w) ↔
    ∃ u v, w = u ++ v ∧ Matches r (a :: u) ∧ Matches (.star r) v := by
  refine ⟨fun h => ?_, fun ⟨u, v, e, h1, h2⟩ => e ▸ .starCons h1 h2⟩
  generalize hx : a :: w = x at h
  generalize hs : RE.star r = s at h
  induction h with
  | eps | atom _ | altL _ | altR _ | cat _ _ => cases hs
  | starNil => cases hx
  | @starCons r' u v h1 h2 _ ih2 =>
    cases hs
    cases u with
    | nil => exact ih2 hx rfl
    | cons b u' => cases hx; exact ⟨u', v, rfl, h1, h2⟩

theorem matches_star : Matches (.star r) w ↔ ∃ ws : List (List α), (∀ u ∈ ws, Matches r u) ∧ w = ws.flatten := by
  constructor
  · intro h
    generalize hs : RE.star r = s at h
    induction h with
    | eps | atom _ | altL _ | altR _ | cat _ _ => cases hs
    | starNil => exact ⟨[], nofun, rfl⟩
    | @starCons r' u v h1 _ _ ih2 =>
      cases hs
      obtain ⟨ws, hL, rfl⟩ := ih2 rfl
      exact ⟨u :: ws, by simpa [h1] using hL, rfl⟩
  · rintro ⟨ws, hL, rfl⟩
    induction ws with
    | nil => exact .starNil
    | cons u ws ih => exact .starCons (hL _ (by simp)) (ih fun v hv => hL _ (by simp [hv]))

theorem matches_star_atom (h : ∀ x ∈ w, p x = true) : Matches (.star (.atom p)) w :=
  matches_star.2 ⟨w.map ([·]), by simpa using h, by simp [← List.flatMap_def]⟩

theorem nullable_iff (r : RE α) : nullable r = true ↔ Matches r [] := by
  induction r with
  | star r _ => simpa [nullable] using .starNil
  | _ => simp_all [nullable, matches_cat, and_assoc]

theorem deriv_iff (r : RE α) (a : α) (w : List α) : Matches (deriv a r) w ↔ Matches r (a :: w) := by
  induction r generalizing w with
  | zero | eps => simp [deriv]
  | atom p => simp only [deriv]; split <;> simp_all [and_assoc]
  | alt r s ihr ihs => simp [deriv, ihr, ihs]
  | cat r s ihr ihs =>
    simp only [deriv, matches_cat_cons, ← nullable_iff, ← ihr, ← ihs]
    split <;> simp_all [matches_cat, or_comm]
  | star r ih => simp only [deriv, matches_star_cons, matches_cat, ih]

theorem rmatch_iff (r : RE α) (w : List α) : rmatch r w = true ↔ Matches r w := by
  induction w generalizing r with
  | nil => simp [rmatch, nullable_iff]
  | cons a w ih => simp [rmatch, ih, deriv_iff]
end RE
