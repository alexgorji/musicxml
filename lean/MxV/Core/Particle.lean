import MxV.Core.RE
/-! XSD particles (element, sequence, choice, group reference, each with `minOccurs` / `maxOccurs`): their
    language `Lang`, the expansion `toRE` to a regular expression, and `accepts_iff`: the derivative matcher
    run on the expansion decides `Lang`. -/
open RE

inductive Particle where
  | elem   (name : Nat) (min : Nat) (max : Option Nat)
  | seq    (min : Nat) (max : Option Nat) (ps : List Particle)
  | choice (min : Nat) (max : Option Nat) (ps : List Particle)
  | group  (g : Nat) (min : Nat) (max : Option Nat) (p : Particle)

def Rep (L : List Nat → Prop) (min : Nat) (max : Option Nat) (w : List Nat) : Prop :=
  ∃ ws : List (List Nat), min ≤ ws.length ∧ (∀ m, max = some m → ws.length ≤ m) ∧
    (∀ u ∈ ws, L u) ∧ w = ws.flatten

mutual
def Particle.Lang : Particle → List Nat → Prop
  | .elem n mi ma => Rep (fun u => u = [n]) mi ma
  | .seq mi ma ps => Rep (Particle.LangSeq ps) mi ma
  | .choice mi ma ps => Rep (Particle.LangAlt ps) mi ma
  | .group _ mi ma p => Rep p.Lang mi ma
def Particle.LangSeq : List Particle → List Nat → Prop
  | [] => fun w => w = []
  | p :: ps => fun w => ∃ u v, w = u ++ v ∧ p.Lang u ∧ Particle.LangSeq ps v
def Particle.LangAlt : List Particle → List Nat → Prop
  | [] => fun _ => False
  | p :: ps => fun w => p.Lang w ∨ Particle.LangAlt ps w
end

theorem Particle.LangAlt_iff (ps : List Particle) (w : List Nat) :
    Particle.LangAlt ps w ↔ ∃ p ∈ ps, p.Lang w := by
  induction ps with
  | nil => simp [Particle.LangAlt]
  | cons p ps ih => simp [Particle.LangAlt, ih]

def repN (r : RE Nat) : Nat → RE Nat
  | 0 => .eps
  | n+1 => .cat r (repN r n)
def optN (r : RE Nat) : Nat → RE Nat
  | 0 => .eps
  | n+1 => .alt .eps (.cat r (optN r n))
def occ (r : RE Nat) (mi : Nat) : Option Nat → RE Nat
  | none => .cat (repN r mi) (.star r)
  | some ma => if mi ≤ ma then .cat (repN r mi) (optN r (ma - mi)) else .zero

mutual
def Particle.toRE : Particle → RE Nat
  | .elem n mi ma => occ (.atom (· == n)) mi ma
  | .seq mi ma ps => occ (Particle.seqRE ps) mi ma
  | .choice mi ma ps => occ (Particle.altRE ps) mi ma
  | .group _ mi ma p => occ p.toRE mi ma
def Particle.seqRE : List Particle → RE Nat
  | [] => .eps
  | p :: ps => .cat p.toRE (Particle.seqRE ps)
def Particle.altRE : List Particle → RE Nat
  | [] => .zero
  | p :: ps => .alt p.toRE (Particle.altRE ps)
end

section occ
variable {r : RE Nat}

theorem repN_iff (n : Nat) (w : List Nat) :
    Matches (repN r n) w ↔ ∃ ws : List (List Nat), ws.length = n ∧ (∀ u ∈ ws, Matches r u) ∧ w = ws.flatten := by
  induction n generalizing w with
  | zero => simp [repN]
  | succ n ih =>
    simp only [repN, matches_cat, ih]; constructor
    · rintro ⟨u, _, rfl, hu, ws, hl, hL, rfl⟩
      exact ⟨u :: ws, by simp [hl], by simpa [hu] using hL, rfl⟩
    · rintro ⟨_ | ⟨u, ws⟩, hl, hL, rfl⟩
      · cases hl
      · exact ⟨u, _, rfl, hL u (by simp), ws, by simpa using hl, fun v hv => hL v (by simp [hv]), rfl⟩

theorem optN_iff (n : Nat) (w : List Nat) :
    Matches (optN r n) w ↔ ∃ ws : List (List Nat), ws.length ≤ n ∧ (∀ u ∈ ws, Matches r u) ∧ w = ws.flatten := by
  induction n generalizing w with
  | zero => simp [optN]
  | succ n ih =>
    simp only [optN, matches_alt, matches_eps, matches_cat, ih]; constructor
    · rintro (rfl | ⟨u, _, rfl, hu, ws, hl, hL, rfl⟩)
      · exact ⟨[], by simp, nofun, rfl⟩
      · exact ⟨u :: ws, by simp [hl], by simpa [hu] using hL, rfl⟩
    · rintro ⟨_ | ⟨u, ws⟩, hl, hL, rfl⟩
      · exact .inl rfl
      · exact .inr ⟨u, _, rfl, hL u (by simp), ws, by simpa using hl, fun v hv => hL v (by simp [hv]), rfl⟩

/-- the first `mi` blocks are matched by `repN`, the remaining ones by the `star` or `optN` that follows it -/
theorem occ_iff {L : List Nat → Prop} (h : ∀ u, Matches r u ↔ L u) (mi : Nat) (ma : Option Nat) (w : List Nat) :
    Matches (occ r mi ma) w ↔ Rep L mi ma w := by
  have split (ws : List (List Nat)) : ws.flatten = (ws.take mi).flatten ++ (ws.drop mi).flatten := by
    rw [← List.flatten_append, List.take_append_drop]
  cases ma with
  | none =>
    simp only [occ, Rep, matches_cat, repN_iff, matches_star, h]; constructor
    · rintro ⟨_, _, rfl, ⟨ws1, hl1, hL1, rfl⟩, ws2, hL2, rfl⟩
      exact ⟨ws1 ++ ws2, by simp; omega, by simp, by simpa [or_imp, forall_and] using ⟨hL1, hL2⟩, by simp⟩
    · rintro ⟨ws, hl, _, hL, rfl⟩
      exact ⟨_, _, split ws, ⟨_, by simp; omega, fun u hu => hL _ (List.mem_of_mem_take hu), rfl⟩,
        _, fun u hu => hL _ (List.mem_of_mem_drop hu), rfl⟩
  | some ma =>
    simp only [occ, Rep]; split
    · simp only [matches_cat, repN_iff, optN_iff, h]; constructor
      · rintro ⟨_, _, rfl, ⟨ws1, hl1, hL1, rfl⟩, ws2, hl2, hL2, rfl⟩
        exact ⟨ws1 ++ ws2, by simp; omega, by rintro _ ⟨⟩; simp; omega,
          by simpa [or_imp, forall_and] using ⟨hL1, hL2⟩, by simp⟩
      · rintro ⟨ws, hl, hmax, hL, rfl⟩
        have := hmax ma rfl
        exact ⟨_, _, split ws, ⟨_, by simp; omega, fun u hu => hL _ (List.mem_of_mem_take hu), rfl⟩,
          _, by simp; omega, fun u hu => hL _ (List.mem_of_mem_drop hu), rfl⟩
    · exact ⟨fun hm => absurd hm not_matches_zero, fun ⟨ws, hl, hmax, _⟩ => by have := hmax ma rfl; omega⟩
end occ

mutual
theorem Particle.toRE_iff : (p : Particle) → (w : List Nat) → (Matches p.toRE w ↔ p.Lang w)
  | .elem n mi ma, w => occ_iff (fun u => by simp) mi ma w
  | .seq mi ma ps, w => occ_iff (Particle.seqRE_iff ps) mi ma w
  | .choice mi ma ps, w => occ_iff (Particle.altRE_iff ps) mi ma w
  | .group _ mi ma p, w => occ_iff (Particle.toRE_iff p) mi ma w
theorem Particle.seqRE_iff : (ps : List Particle) → (w : List Nat) → (Matches (Particle.seqRE ps) w ↔ Particle.LangSeq ps w)
  | [], w => by simp only [Particle.seqRE, Particle.LangSeq, matches_eps]
  | p :: ps, w => by
    simp only [Particle.seqRE, Particle.LangSeq, matches_cat, Particle.toRE_iff p, Particle.seqRE_iff ps]
theorem Particle.altRE_iff : (ps : List Particle) → (w : List Nat) → (Matches (Particle.altRE ps) w ↔ Particle.LangAlt ps w)
  | [], w => by simp only [Particle.altRE, Particle.LangAlt, not_matches_zero]
  | p :: ps, w => by
    simp only [Particle.altRE, Particle.LangAlt, matches_alt, Particle.toRE_iff p, Particle.altRE_iff ps]
end

def Particle.accepts (p : Particle) (w : List Nat) : Bool := rmatch p.toRE w

theorem Particle.accepts_iff (p : Particle) (w : List Nat) : p.accepts w = true ↔ p.Lang w := by
  simp [Particle.accepts, rmatch_iff, Particle.toRE_iff]

