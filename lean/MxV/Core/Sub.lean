import MxV.Core.Particle
/-! Decidable, structural language inclusion between particles (`sub`), sound for `Lang`.
    `sub p q = true` demands the same shape except that the branches of a `choice` may be
    listed in any order (each branch of `p` must be included in some branch of `q`).
    `sub p q && sub q p` is the relation the C03 table theorem `templates_equiv` decides.
    Then structural equality `beq` (`beq_eq`), which `C03.inst_templates_eq` decides: every instance's private copy
    of a template is the process-wide template. -/

def optLe : Option Nat → Option Nat → Bool
  | _, none => true
  | none, some _ => false
  | some a, some b => decide (a ≤ b)

mutual
def Particle.sub : Particle → Particle → Bool
  | .elem n mi ma, q =>
    match q with
    | .elem n' mi' ma' => n == n' && decide (mi' ≤ mi) && optLe ma ma'
    | _ => false
  | .seq mi ma ps, q =>
    match q with
    | .seq mi' ma' qs => decide (mi' ≤ mi) && optLe ma ma' && Particle.subSeq ps qs
    | _ => false
  | .choice mi ma ps, q =>
    match q with
    | .choice mi' ma' qs => decide (mi' ≤ mi) && optLe ma ma' && Particle.subAlt ps qs
    | _ => false
  | .group _ mi ma p, q =>
    match q with
    | .group _ mi' ma' p' => decide (mi' ≤ mi) && optLe ma ma' && Particle.sub p p'
    | _ => false
def Particle.subSeq : List Particle → List Particle → Bool
  | [], qs => qs.isEmpty
  | p :: ps, qs =>
    match qs with
    | [] => false
    | q :: qs' => Particle.sub p q && Particle.subSeq ps qs'
def Particle.subAlt : List Particle → List Particle → Bool
  | [], _ => true
  | p :: ps, qs => qs.any (fun q => Particle.sub p q) && Particle.subAlt ps qs
end

theorem Rep_mono {L L' : List Nat → Prop} {mi mi' : Nat} {ma ma' : Option Nat} {w : List Nat}
    (hL : ∀ u, L u → L' u) (hmi : mi' ≤ mi) (hma : optLe ma ma' = true) (h : Rep L mi ma w) :
    Rep L' mi' ma' w := by
  obtain ⟨ws, hl, hmax, hws, rfl⟩ := h
  refine ⟨ws, Nat.le_trans hmi hl, ?_, fun u hu => hL u (hws u hu), rfl⟩
  rintro m rfl
  cases ma with
  | none => simp [optLe] at hma
  | some a => exact Nat.le_trans (hmax a rfl) (by simpa [optLe] using hma)

mutual
theorem Particle.sub_sound : (p q : Particle) → p.sub q = true → ∀ w, p.Lang w → q.Lang w
  | .elem n mi ma, q, h => by
    cases q with
    | elem n' mi' ma' =>
      simp only [Particle.sub, Bool.and_eq_true, beq_iff_eq, decide_eq_true_eq] at h
      obtain ⟨⟨rfl, hmi⟩, hma⟩ := h
      exact fun w => Rep_mono (fun _ hu => hu) hmi hma
    | _ => simp [Particle.sub] at h
  | .seq mi ma ps, q, h => by
    cases q with
    | seq mi' ma' qs =>
      simp only [Particle.sub, Bool.and_eq_true, decide_eq_true_eq] at h
      exact fun w => Rep_mono (Particle.subSeq_sound ps qs h.2) h.1.1 h.1.2
    | _ => simp [Particle.sub] at h
  | .choice mi ma ps, q, h => by
    cases q with
    | choice mi' ma' qs =>
      simp only [Particle.sub, Bool.and_eq_true, decide_eq_true_eq] at h
      exact fun w => Rep_mono (Particle.subAlt_sound ps qs h.2) h.1.1 h.1.2
    | _ => simp [Particle.sub] at h
  | .group g mi ma p, q, h => by
    cases q with
    | group g' mi' ma' p' =>
      simp only [Particle.sub, Bool.and_eq_true, decide_eq_true_eq] at h
      exact fun w => Rep_mono (Particle.sub_sound p p' h.2) h.1.1 h.1.2
    | _ => simp [Particle.sub] at h
theorem Particle.subSeq_sound : (ps qs : List Particle) → Particle.subSeq ps qs = true →
    ∀ w, Particle.LangSeq ps w → Particle.LangSeq qs w
  | [], qs, h => by
    cases qs with
    | nil => intro w hw; exact hw
    | cons _ _ => simp [Particle.subSeq] at h
  | p :: ps, qs, h => by
    cases qs with
    | nil => simp [Particle.subSeq] at h
    | cons q qs' =>
      simp only [Particle.subSeq, Bool.and_eq_true] at h
      intro w hw
      obtain ⟨u, v, rfl, hu, hv⟩ := hw
      exact ⟨u, v, rfl, Particle.sub_sound p q h.1 u hu, Particle.subSeq_sound ps qs' h.2 v hv⟩
theorem Particle.subAlt_sound : (ps qs : List Particle) → Particle.subAlt ps qs = true →
    ∀ w, Particle.LangAlt ps w → Particle.LangAlt qs w
  | [], _, _ => fun _ hw => nomatch hw
  | p :: ps, qs, h => by
    simp only [Particle.subAlt, Bool.and_eq_true, List.any_eq_true] at h
    obtain ⟨⟨q, hq, hpq⟩, hrest⟩ := h
    intro w hw
    rcases hw with hw | hw
    · exact (Particle.LangAlt_iff qs w).2 ⟨q, hq, Particle.sub_sound p q hpq w hw⟩
    · exact Particle.subAlt_sound ps qs hrest w hw
end

def Particle.equivB (p q : Particle) : Bool := p.sub q && q.sub p

theorem Particle.equivB_sound {p q : Particle} (h : p.equivB q = true) (w : List Nat) :
    p.Lang w ↔ q.Lang w := by
  simp only [Particle.equivB, Bool.and_eq_true] at h
  exact ⟨Particle.sub_sound p q h.1 w, Particle.sub_sound q p h.2 w⟩

-- structural equality (used for "per-instance copy = process-wide template")
mutual
def Particle.beq : Particle → Particle → Bool
  | .elem n mi ma, q => match q with
    | .elem n' mi' ma' => n == n' && mi == mi' && ma == ma'
    | _ => false
  | .seq mi ma ps, q => match q with
    | .seq mi' ma' qs => mi == mi' && ma == ma' && Particle.beqL ps qs
    | _ => false
  | .choice mi ma ps, q => match q with
    | .choice mi' ma' qs => mi == mi' && ma == ma' && Particle.beqL ps qs
    | _ => false
  | .group g mi ma p, q => match q with
    | .group g' mi' ma' p' => g == g' && mi == mi' && ma == ma' && Particle.beq p p'
    | _ => false
def Particle.beqL : List Particle → List Particle → Bool
  | [], qs => qs.isEmpty
  | p :: ps, qs => match qs with
    | [] => false
    | q :: qs' => Particle.beq p q && Particle.beqL ps qs'
end

mutual
theorem Particle.beq_eq : (p q : Particle) → p.beq q = true → p = q
  | .elem n mi ma, q, h => by
    cases q <;> simp_all [Particle.beq]
  | .seq mi ma ps, q, h => by
    cases q with
    | seq mi' ma' qs =>
      simp only [Particle.beq, Bool.and_eq_true, beq_iff_eq] at h
      obtain ⟨⟨rfl, rfl⟩, hl⟩ := h
      rw [Particle.beqL_eq ps qs hl]
    | _ => simp [Particle.beq] at h
  | .choice mi ma ps, q, h => by
    cases q with
    | choice mi' ma' qs =>
      simp only [Particle.beq, Bool.and_eq_true, beq_iff_eq] at h
      obtain ⟨⟨rfl, rfl⟩, hl⟩ := h
      rw [Particle.beqL_eq ps qs hl]
    | _ => simp [Particle.beq] at h
  | .group g mi ma p, q, h => by
    cases q with
    | group g' mi' ma' p' =>
      simp only [Particle.beq, Bool.and_eq_true, beq_iff_eq] at h
      obtain ⟨⟨⟨rfl, rfl⟩, rfl⟩, hl⟩ := h
      rw [Particle.beq_eq p p' hl]
    | _ => simp [Particle.beq] at h
theorem Particle.beqL_eq : (ps qs : List Particle) → Particle.beqL ps qs = true → ps = qs
  | [], qs, h => by cases qs <;> simp_all [Particle.beqL]
  | p :: ps, qs, h => by
    cases qs with
    | nil => simp [Particle.beqL] at h
    | cons q qs' =>
      simp only [Particle.beqL, Bool.and_eq_true] at h
      rw [Particle.beq_eq p q h.1, Particle.beqL_eq ps qs' h.2]
end
