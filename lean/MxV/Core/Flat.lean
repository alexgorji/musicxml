import MxV.Core.Particle
/-! the counting view of a particle: its leaves, the `flat` shape, and for a count function the
rendering in leaf order (`render`), emptiness (`emp`: `emp_iff`, `emp_congr`), admissibility (`ok`) and the
bound test `leMax`; repetitions (`Rep`) at most once (`Rep_one`) and of single letters (`Rep_letters`,
`Rep_elem`); words use leaf names only (`Lang_subset`). The characterisation `Particle.flat_iff` of the language of
a Flat particle by these is in `Model/TameSlotted.lean`. -/

def cnt (w : List Nat) : Nat → Nat := fun n => w.count n

mutual
def Particle.leaves : Particle → List Nat
  | .elem n _ _ => [n]
  | .seq _ _ ps => Particle.leavesL ps
  | .choice _ _ ps => Particle.leavesL ps
  | .group _ _ _ p => p.leaves
def Particle.leavesL : List Particle → List Nat
  | [] => []
  | p :: ps => p.leaves ++ Particle.leavesL ps
end

mutual
def Particle.flat : Particle → Bool
  | .elem _ _ _ => true
  | .seq mi ma ps => decide (mi ≤ 1) && (ma == some 1) && Particle.flatL ps
  | .choice _ _ _ => false
  | .group _ mi ma p => decide (mi ≤ 1) && (ma == some 1) && p.flat
def Particle.flatL : List Particle → Bool
  | [] => true
  | p :: ps => p.flat && Particle.flatL ps
end

mutual
def Particle.render (c : Nat → Nat) : Particle → List Nat
  | .elem n _ _ => List.replicate (c n) n
  | .seq _ _ ps => Particle.renderL c ps
  | .choice _ _ _ => []
  | .group _ _ _ p => p.render c
def Particle.renderL (c : Nat → Nat) : List Particle → List Nat
  | [] => []
  | p :: ps => p.render c ++ Particle.renderL c ps
end

mutual
def Particle.emp (c : Nat → Nat) : Particle → Bool
  | .elem n _ _ => c n == 0
  | .seq _ _ ps => Particle.empL c ps
  | .choice _ _ ps => Particle.empL c ps
  | .group _ _ _ p => p.emp c
def Particle.empL (c : Nat → Nat) : List Particle → Bool
  | [] => true
  | p :: ps => p.emp c && Particle.empL c ps
end

def leMax (k : Nat) : Option Nat → Bool
  | none => true
  | some m => decide (k ≤ m)

mutual
def Particle.ok (c : Nat → Nat) : Particle → Bool
  | .elem n mi ma => decide (mi ≤ c n) && leMax (c n) ma
  | .seq mi _ ps => (mi == 0 && Particle.empL c ps) || Particle.okL c ps
  | .choice _ _ _ => false
  | .group _ mi _ p => (mi == 0 && p.emp c) || p.ok c
def Particle.okL (c : Nat → Nat) : List Particle → Bool
  | [] => true
  | p :: ps => p.ok c && Particle.okL c ps
end

theorem Particle.flat_seq {mi : Nat} {ma : Option Nat} {ps : List Particle}
    (h : (Particle.seq mi ma ps).flat = true) : Particle.flatL ps = true := by
  simp only [Particle.flat, Bool.and_eq_true] at h; exact h.2
theorem Particle.flat_group {g mi : Nat} {ma : Option Nat} {p : Particle}
    (h : (Particle.group g mi ma p).flat = true) : p.flat = true := by
  simp only [Particle.flat, Bool.and_eq_true] at h; exact h.2
theorem Particle.flatL_cons {p : Particle} {ps : List Particle}
    (h : Particle.flatL (p :: ps) = true) : p.flat = true ∧ Particle.flatL ps = true := by
  simpa only [Particle.flatL, Bool.and_eq_true] using h

theorem leMax_iff {k : Nat} {ma : Option Nat} : leMax k ma = true ↔ ∀ m, ma = some m → k ≤ m := by
  cases ma <;> simp [leMax]

theorem leMax_mono {k k' : Nat} {ma : Option Nat} (h : k ≤ k') (h' : leMax k' ma = true) : leMax k ma = true :=
  leMax_iff.2 fun m hm => Nat.le_trans h (leMax_iff.1 h' m hm)

theorem Rep_one {L : List Nat → Prop} {mi : Nat} {w : List Nat} (hmi : mi ≤ 1) :
    Rep L mi (some 1) w ↔ (mi = 0 ∧ w = []) ∨ L w := by
  constructor
  · rintro ⟨ws, hl, hmax, hL, rfl⟩
    have h1 := hmax 1 rfl
    match ws, hl, h1, hL with
    | [], hl, _, _ => left; exact ⟨by simpa using hl, rfl⟩
    | [u], _, _, hL => right; simpa using hL u (by simp)
    | _ :: _ :: _, _, h1, _ => simp at h1
  · rintro (⟨rfl, rfl⟩ | h)
    · exact ⟨[], by simp, by simp, by simp, rfl⟩
    · exact ⟨[w], by simpa using hmi, by intro m hm; cases hm; simp, by simpa using h, by simp⟩

theorem Rep_letters (S : List Nat) (mi : Nat) (ma : Option Nat) (w : List Nat) :
    Rep (fun u => ∃ n ∈ S, u = [n]) mi ma w ↔ (∀ x ∈ w, x ∈ S) ∧ mi ≤ w.length ∧ leMax w.length ma = true := by
  rw [leMax_iff]
  constructor
  · rintro ⟨ws, hl, hmax, hL, rfl⟩
    have key : (∀ x ∈ ws.flatten, x ∈ S) ∧ ws.flatten.length = ws.length := by
      clear hl hmax
      induction ws with
      | nil => exact ⟨nofun, rfl⟩
      | cons u r ih =>
        obtain ⟨n, hn, rfl⟩ := hL u List.mem_cons_self
        obtain ⟨h1, h2⟩ := ih fun v hv => hL v (List.mem_cons_of_mem _ hv)
        exact ⟨by simpa [hn] using h1, by simp [h2]⟩
    exact ⟨key.1, key.2 ▸ hl, key.2 ▸ hmax⟩
  · rintro ⟨hS, hmi, hma⟩
    exact ⟨w.map fun x => [x], by simpa using hmi, by simpa using hma, by simpa using hS,
      (List.flatMap_singleton' w).symm⟩

theorem Rep_elem {n mi : Nat} {ma : Option Nat} {w : List Nat} :
    Rep (fun u => u = [n]) mi ma w ↔ (∀ x ∈ w, x ∈ [n]) ∧ mi ≤ w.length ∧ leMax w.length ma = true := by
  rw [← Rep_letters]; simp

theorem Rep_subset {L : List Nat → Prop} {S : List Nat} {mi ma w}
    (hL : ∀ u, L u → ∀ x ∈ u, x ∈ S) (h : Rep L mi ma w) : ∀ x ∈ w, x ∈ S := by
  obtain ⟨ws, _, _, hws, rfl⟩ := h
  intro x hx
  obtain ⟨u, hu, hxu⟩ := List.mem_flatten.1 hx
  exact hL u (hws u hu) x hxu

mutual
theorem Particle.Lang_subset : (p : Particle) → (w : List Nat) → p.Lang w → ∀ x ∈ w, x ∈ p.leaves
  | .elem n _ _, _, h => Rep_subset (L := fun u => u = [n]) (S := [n]) (fun _ hu _ hx => hu ▸ hx) h
  | .seq _ _ ps, _, h => Rep_subset (Particle.LangSeq_subset ps) h
  | .choice _ _ ps, _, h => Rep_subset (Particle.LangAlt_subset ps) h
  | .group _ _ _ p, _, h => Rep_subset (Particle.Lang_subset p) h
theorem Particle.LangSeq_subset : (ps : List Particle) → (w : List Nat) → Particle.LangSeq ps w → ∀ x ∈ w, x ∈ Particle.leavesL ps
  | [], _, h => by cases h; exact nofun
  | p :: ps, _, ⟨u, v, rfl, hu, hv⟩ => fun x hx =>
    List.mem_append.2 ((List.mem_append.1 hx).imp (Particle.Lang_subset p u hu x) (Particle.LangSeq_subset ps v hv x))
theorem Particle.LangAlt_subset : (ps : List Particle) → (w : List Nat) → Particle.LangAlt ps w → ∀ x ∈ w, x ∈ Particle.leavesL ps
  | [], _, h => nomatch h
  | p :: ps, w, h => fun x hx =>
    List.mem_append.2 (h.imp (fun h => Particle.Lang_subset p w h x hx) (fun h => Particle.LangAlt_subset ps w h x hx))
end

theorem cnt_append (u v : List Nat) (n : Nat) : cnt (u ++ v) n = cnt u n + cnt v n := List.count_append

theorem cnt_snoc (w : List Nat) (n : Nat) : cnt (w ++ [n]) n = cnt w n + 1 := by
  rw [cnt_append]; simp [cnt]

theorem cnt_perm {w w' : List Nat} (h : w'.Perm w) : cnt w' = cnt w := by funext n; exact h.count_eq n

theorem Particle.leavesL_eq_flatten (ps : List Particle) : (ps.map fun q => q.leaves).flatten = Particle.leavesL ps := by
  induction ps with
  | nil => rfl
  | cons q ps ih => simp only [List.map_cons, List.flatten_cons, Particle.leavesL, ih]

theorem Particle.nodup_leavesL_cons {p : Particle} {ps : List Particle} (h : (Particle.leavesL (p :: ps)).Nodup) :
    p.leaves.Nodup ∧ (Particle.leavesL ps).Nodup ∧ ∀ x ∈ p.leaves, x ∉ Particle.leavesL ps :=
  have ⟨h1, h2, hd⟩ := List.nodup_append.1 h
  ⟨h1, h2, fun x hp hq => hd x hp x hq rfl⟩

mutual
theorem Particle.emp_iff (c : Nat → Nat) : (p : Particle) → (p.emp c = true ↔ ∀ n ∈ p.leaves, c n = 0)
  | .elem _ _ _ => by simp [Particle.emp, Particle.leaves]
  | .seq _ _ ps => Particle.empL_iff c ps
  | .choice _ _ ps => Particle.empL_iff c ps
  | .group _ _ _ p => Particle.emp_iff c p
theorem Particle.empL_iff (c : Nat → Nat) : (ps : List Particle) →
    (Particle.empL c ps = true ↔ ∀ n ∈ Particle.leavesL ps, c n = 0)
  | [] => by simp [Particle.empL, Particle.leavesL]
  | p :: ps => by simp [Particle.empL, Particle.leavesL, Particle.emp_iff c p, Particle.empL_iff c ps, or_imp, forall_and]
end

theorem Particle.emp_congr {c c' : Nat → Nat} (p : Particle) (h : ∀ n ∈ p.leaves, c n = c' n) : p.emp c = p.emp c' := by
  rw [Bool.eq_iff_iff, Particle.emp_iff, Particle.emp_iff]
  exact forall₂_congr fun n hn => by rw [h n hn]
theorem Particle.empL_congr {c c' : Nat → Nat} (ps : List Particle) (h : ∀ n ∈ Particle.leavesL ps, c n = c' n) :
    Particle.empL c ps = Particle.empL c' ps :=
  -- `empL c ps` is by definition `emp c` of the sequence around `ps`
  Particle.emp_congr (.seq 1 (some 1) ps) h

theorem Particle.emp_nil (p : Particle) : p.emp (cnt []) = true := (Particle.emp_iff _ p).2 fun _ _ => rfl
theorem Particle.empL_nil (ps : List Particle) : Particle.empL (cnt []) ps = true := Particle.emp_nil (.seq 1 (some 1) ps)
