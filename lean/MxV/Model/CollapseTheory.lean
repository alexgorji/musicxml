import MxV.Model.Values
/-! # get_cleaned_token is XML Schema's `whiteSpace = collapse`

`cleanedTokenL` is the four-statement port of `util/core.py get_cleaned_token` (split at `\n`, strip
the pieces, join with blanks; the same for `\t`, `\r`; finally split at blanks, drop empty pieces,
strip, join). `collapseX` is the schema's definition: the maximal runs of characters other than
#x20 #x9 #xA #xD, joined by single blanks. `cleanedToken_eq_collapse`: they are the same function,
for every string. -/
namespace Values

theorem splitP_ne_nil (p : Char → Bool) (s : List Char) : splitP p s ≠ [] := by
  cases s with
  | nil => simp [splitP]
  | cons c r =>
    simp only [splitP]
    split
    · simp
    · split <;> simp

theorem splitP_cons_neg {p : Char → Bool} {c : Char} {r : List Char} (h : p c = false) :
    ∃ w ws, splitP p r = w :: ws ∧ splitP p (c :: r) = (c :: w) :: ws := by
  cases hs : splitP p r with
  | nil => exact absurd hs (splitP_ne_nil p r)
  | cons w ws => exact ⟨w, ws, rfl, by simp [splitP, h, hs]⟩

theorem splitP_cons_pos {p : Char → Bool} {c : Char} {r : List Char} (h : p c = true) :
    splitP p (c :: r) = [] :: splitP p r := by simp [splitP, h]

theorem splitP_congr {p q : Char → Bool} : ∀ {s : List Char}, (∀ x ∈ s, p x = q x) → splitP p s = splitP q s
  | [], _ => rfl
  | c :: r, h => by
    have hc := h c List.mem_cons_self
    have ih := splitP_congr (s := r) (fun x hx => h x (List.mem_cons_of_mem _ hx))
    simp only [splitP, hc, ih]

theorem flatten_splitP (p : Char → Bool) : ∀ s : List Char, (splitP p s).flatten = s.filter (!p ·)
  | [] => rfl
  | c :: r => by
    cases hc : p c
    · obtain ⟨w, ws, e1, e2⟩ := splitP_cons_neg (r := r) hc
      have ih := flatten_splitP p r
      rw [e1] at ih
      simp [e2, hc, ← ih]
    · simp [splitP_cons_pos hc, hc, flatten_splitP p r]

theorem mem_splitP {p : Char → Bool} {s w : List Char} {x : Char} (hw : w ∈ splitP p s) (hx : x ∈ w) :
    x ∈ s ∧ p x = false := by
  simpa [flatten_splitP] using List.mem_flatten.2 ⟨w, hw, hx⟩

theorem joinWith_cons_cons (c : Char) (x : Char) (w : List Char) (ws : List (List Char)) :
    joinWith c ((x :: w) :: ws) = x :: joinWith c (w :: ws) := by
  cases ws <;> simp [joinWith]

theorem joinWith_splitP (c : Char) : ∀ s : List Char, joinWith c (splitP (· == c) s) = s
  | [] => by simp [splitP, joinWith]
  | x :: r => by
    cases hx : x == c
    · obtain ⟨w, ws, e1, e2⟩ := splitP_cons_neg (p := (· == c)) (r := r) hx
      have ih := joinWith_splitP c r
      rw [e1] at ih
      rw [e2, joinWith_cons_cons, ih]
    · rw [splitP_cons_pos (p := (· == c)) hx]
      cases hs : splitP (· == c) r with
      | nil => exact absurd hs (splitP_ne_nil _ r)
      | cons w ws =>
        have ih := joinWith_splitP c r
        rw [hs] at ih
        simp [joinWith, ih, eq_of_beq hx]

theorem splitP_append_sep {p : Char → Bool} {c : Char} (hc : p c = true) :
    ∀ (a b : List Char), splitP p (a ++ c :: b) = splitP p a ++ splitP p b
  | [], b => by simp [splitP, hc]
  | x :: a, b => by
    have ih := splitP_append_sep hc a b
    cases hx : p x
    · obtain ⟨w, ws, e1, e2⟩ := splitP_cons_neg (r := a) hx
      simp only [List.cons_append, splitP, hx, ih, e1, Bool.false_eq_true, if_false, List.cons_append]
    · simp [splitP, hx, ih]

theorem wordsX_append_sep {c : Char} (hc : isXs c = true) (a b : List Char) :
    wordsX (a ++ c :: b) = wordsX a ++ wordsX b := by
  simp [wordsX, splitP_append_sep hc]

theorem wordsX_nil : wordsX [] = [] := by simp [wordsX, splitP]

theorem wordsX_cons_sep {c : Char} (hc : isXs c = true) (r : List Char) : wordsX (c :: r) = wordsX r := by
  simp [wordsX, splitP, hc]

theorem wordsX_snoc_sep {c : Char} (hc : isXs c = true) (a : List Char) : wordsX (a ++ [c]) = wordsX a := by
  rw [wordsX_append_sep hc, wordsX_nil, List.append_nil]

theorem wordsX_dropWhile : ∀ a : List Char, wordsX (a.dropWhile isXs) = wordsX a
  | [] => rfl
  | c :: r => by
    cases hc : isXs c
    · simp [List.dropWhile, hc]
    · simp only [List.dropWhile, hc, wordsX_cons_sep hc]; exact wordsX_dropWhile r

theorem wordsX_dropWhile_rev : ∀ b : List Char, wordsX (b.dropWhile isXs).reverse = wordsX b.reverse
  | [] => rfl
  | c :: r => by
    cases hc : isXs c
    · simp [List.dropWhile, hc]
    · simp only [List.dropWhile, hc, List.reverse_cons, wordsX_snoc_sep hc]; exact wordsX_dropWhile_rev r

theorem wordsX_stripX (a : List Char) : wordsX (stripX a) = wordsX a := by
  unfold stripX
  rw [wordsX_dropWhile_rev, List.reverse_reverse, wordsX_dropWhile]

theorem wordsX_joinWith {c : Char} (hc : isXs c = true) : ∀ l : List (List Char),
    wordsX (joinWith c l) = (l.map wordsX).flatten
  | [] => by simp [joinWith, wordsX_nil]
  | [a] => by simp [joinWith]
  | a :: b :: r => by
    simp only [joinWith, wordsX_append_sep hc, List.map, List.flatten_cons]
    rw [wordsX_joinWith hc (b :: r)]; simp

theorem wordsX_tokenPass {c : Char} (hc : isXs c = true) (s : List Char) : wordsX (tokenPass c s) = wordsX s := by
  -- the words of the blank-joined stripped pieces are the words of the pieces, hence of the pieces joined by `c`, i.e. of `s`
  unfold tokenPass joinSp splitOnChar
  rw [wordsX_joinWith (by decide : isXs ' ' = true)]
  have h1 : ((splitP (· == c) s).map stripX).map wordsX = (splitP (· == c) s).map wordsX := by
    simp [List.map_map, Function.comp_def, wordsX_stripX]
  rw [h1, ← wordsX_joinWith hc, joinWith_splitP]

theorem mem_joinWith {c x : Char} : ∀ {l : List (List Char)}, x ∈ joinWith c l → x = c ∨ ∃ w ∈ l, x ∈ w
  | [], h => by simp [joinWith] at h
  | [a], h => .inr ⟨a, List.mem_cons_self, by simpa [joinWith] using h⟩
  | a :: b :: r, h => by
    simp only [joinWith, List.mem_append, List.mem_cons] at h
    rcases h with h | h | h
    · exact .inr ⟨a, List.mem_cons_self, h⟩
    · exact .inl h
    · rcases mem_joinWith (l := b :: r) h with h | ⟨w, hw, hx⟩
      · exact .inl h
      · exact .inr ⟨w, List.mem_cons_of_mem _ hw, hx⟩

theorem mem_stripX {x : Char} {w : List Char} (h : x ∈ stripX w) : x ∈ w := by
  have h1 := List.mem_reverse.1 h
  have h2 := (List.dropWhile_sublist _).mem h1
  have h3 := List.mem_reverse.1 h2
  exact (List.dropWhile_sublist _).mem h3

theorem mem_tokenPass {c x : Char} {s : List Char} (h : x ∈ tokenPass c s) (hx : (x == ' ') = false) :
    x ∈ s ∧ (x == c) = false := by
  rcases mem_joinWith h with rfl | ⟨w, hw, hxw⟩
  · exact absurd hx (by decide)
  · obtain ⟨w0, hw0, rfl⟩ := List.mem_map.1 hw
    exact mem_splitP hw0 (mem_stripX hxw)

theorem stripX_eq_self {w : List Char} (h : ∀ x ∈ w, isXs x = false) : stripX w = w := by
  have d1 : ∀ l : List Char, (∀ x ∈ l, isXs x = false) → l.dropWhile isXs = l := by
    intro l hl
    cases l with
    | nil => rfl
    | cons c r => simp [List.dropWhile, hl c List.mem_cons_self]
  unfold stripX
  rw [d1 w h, d1 w.reverse (fun x hx => h x (List.mem_reverse.1 hx)), List.reverse_reverse]

/-- **get_cleaned_token is `whiteSpace = collapse`** -/
theorem cleanedTokenL_eq_collapse (s : List Char) : cleanedTokenL s = collapseX s := by
  unfold cleanedTokenL collapseX
  generalize hs3 : tokenPass '\r' (tokenPass '\t' (tokenPass '\n' s)) = s3
  have hw : wordsX s3 = wordsX s := by
    rw [← hs3, wordsX_tokenPass (by decide), wordsX_tokenPass (by decide), wordsX_tokenPass (by decide)]
  -- after the three statements only blanks are left as white space
  have hfree : ∀ x ∈ s3, (x == ' ') = isXs x := by
    intro x hx
    cases hsp : x == ' '
    · rw [← hs3] at hx
      obtain ⟨h1, hr⟩ := mem_tokenPass hx hsp
      obtain ⟨h2, ht⟩ := mem_tokenPass h1 hsp
      simp [isXs, hsp, hr, ht, (mem_tokenPass h2 hsp).2]
    · simp [isXs, hsp]
  -- so the last statement splits at all white space, and its pieces need no stripping
  have hid : ((splitP isXs s3).filter (· ≠ [])).map stripX = wordsX s3 :=
    (List.map_congr_left fun w hw' =>
      stripX_eq_self fun x hx => (mem_splitP (List.mem_filter.1 hw').1 hx).2).trans (List.map_id _)
  show joinSp (((splitOnChar ' ' s3).filter (· ≠ [])).map stripX) = joinSp (wordsX s)
  rw [splitOnChar, splitP_congr hfree, hid, hw]

theorem cleanedToken_eq_collapse (s : String) : (cleanedToken s).toList = collapseX s.toList := by
  simp [cleanedToken, cleanedTokenL_eq_collapse]

theorem wordsX_no_ws {s w : List Char} (hw : w ∈ wordsX s) : w ≠ [] ∧ ∀ x ∈ w, isXs x = false := by
  have h := List.mem_filter.1 hw
  exact ⟨by simpa using h.2, fun x hx => (mem_splitP h.1 hx).2⟩

theorem splitP_no_sep {p : Char → Bool} : ∀ {w : List Char}, (∀ x ∈ w, p x = false) → splitP p w = [w]
  | [], _ => rfl
  | c :: r, h => by
    have hc := h c List.mem_cons_self
    have ih := splitP_no_sep (w := r) (fun x hx => h x (List.mem_cons_of_mem _ hx))
    simp [splitP, hc, ih]

theorem wordsX_word {w : List Char} (hne : w ≠ []) (h : ∀ x ∈ w, isXs x = false) : wordsX w = [w] := by
  simp [wordsX, splitP_no_sep h, hne]

theorem wordsX_collapseX (s : List Char) : wordsX (collapseX s) = wordsX s := by
  unfold collapseX joinSp
  rw [wordsX_joinWith (by decide : isXs ' ' = true)]
  have : (wordsX s).map wordsX = (wordsX s).map fun w => [w] := by
    apply List.map_congr_left
    intro w hw
    have := wordsX_no_ws hw
    exact wordsX_word this.1 this.2
  rw [this, ← List.flatMap_def, List.flatMap_singleton']

/-- collapsing is idempotent: a collapsed text is its own normal form (what the second half of C05
    offers to the validator) -/
theorem collapseX_idem (s : List Char) : collapseX (collapseX s) = collapseX s := by
  rw [collapseX, wordsX_collapseX, collapseX]

end Values

#print axioms Values.cleanedTokenL_eq_collapse
#print axioms Values.collapseX_idem
