import MxV.Model.Mslot
import MxV.Model.MsimpleTheory
/-! # `Mslot` on `Slotted` templates: the language, the final check, the invariant

The count check `okS` and the rendering `renderS` of a word characterise the language of a Slotted
particle (`slotted_iff`: `p.Lang w ↔ okS w p ∧ w = renderS w p`). `okS` is "nothing missing"
(`Mslot.missing`, the final check) together with "nothing over-full" (`maxOK`); the latter is what
`place` tests before it accepts a child, hence the invariant `InvS` of the states that histories
(`stepS`, `runS`, `runES`) reach. `renderS`, `maxOK` and the ordered view do not look at the scopes and
are read off the list `blocks p`. The property theorems are in `MxV/Props/`. -/

open Mslot (restr)

theorem restr_append (S u v : List Nat) : restr S (u ++ v) = restr S u ++ restr S v := by simp [restr]

theorem restr_eq_self {S w : List Nat} (h : ∀ x ∈ w, x ∈ S) : restr S w = w := by
  simp only [restr, List.filter_eq_self]
  intro x hx; simpa using h x hx

theorem restr_eq_nil {S w : List Nat} (h : ∀ x ∈ w, x ∉ S) : restr S w = [] := by
  simp only [restr, List.filter_eq_nil_iff]
  intro x hx; simpa using h x hx

theorem restr_subset (S w : List Nat) : ∀ x ∈ restr S w, x ∈ S := by
  intro x hx; simp only [restr, List.mem_filter] at hx; simpa using hx.2

theorem restr_restr_sub {S T w : List Nat} (h : ∀ x ∈ S, x ∈ T) : restr S (restr T w) = restr S w := by
  simp only [restr, List.filter_filter]
  apply List.filter_congr
  intro x _
  by_cases hx : x ∈ S
  · simp [hx, h x hx]
  · simp [hx]

theorem restr_eq_of_sub {S T w w' : List Nat} (hST : ∀ x ∈ S, x ∈ T) (h : restr T w = restr T w') :
    restr S w = restr S w' := by
  rw [← restr_restr_sub hST, h, restr_restr_sub hST]

theorem restr_append_left {S u v : List Nat} (hv : ∀ x ∈ v, x ∉ S) : restr S (u ++ v) = restr S u := by
  rw [restr_append, restr_eq_nil hv, List.append_nil]
theorem restr_append_right {S u v : List Nat} (hu : ∀ x ∈ u, x ∉ S) : restr S (u ++ v) = restr S v := by
  rw [restr_append, restr_eq_nil hu, List.nil_append]

theorem restr_snoc_not_mem {S w : List Nat} {n : Nat} (h : n ∉ S) : restr S (w ++ [n]) = restr S w :=
  restr_append_left fun _ hx => List.mem_singleton.1 hx ▸ h

theorem restr_snoc_mem {S w : List Nat} {n : Nat} (h : n ∈ S) : restr S (w ++ [n]) = restr S w ++ [n] := by
  rw [restr_append, restr_eq_self (w := [n]) fun x hx => List.mem_singleton.1 hx ▸ h]

theorem length_restr_perm {S w w' : List Nat} (h : w'.Perm w) : (restr S w').length = (restr S w).length :=
  (h.filter _).length_eq

theorem cnt_restr {S w : List Nat} {n : Nat} (h : n ∈ S) : cnt (restr S w) n = cnt w n := by
  simp only [cnt, restr]
  rw [List.count_filter]
  simpa using h

theorem cnt_of_restr_eq {S w w' : List Nat} (h : restr S w = restr S w') {n : Nat} (hn : n ∈ S) : cnt w n = cnt w' n := by
  rw [← cnt_restr hn, h, cnt_restr hn]

theorem restr_single (n : Nat) (w : List Nat) : restr [n] w = List.replicate (cnt w n) n := by
  simp only [restr, List.contains_cons, List.contains_nil, Bool.or_false, List.filter_beq, cnt]

theorem length_restr_single (n : Nat) (w : List Nat) : (restr [n] w).length = cnt w n := by
  rw [restr_single, List.length_replicate]

namespace Mslot
open Msimple
open Particle (emp_iff empL_iff emp_congr empL_congr emp_nil empL_nil)

theorem isSlotted_iff {p : Particle} : isSlotted p = true ↔ slotted p = true ∧ p.leaves.Nodup := by
  simp [isSlotted, nodupNat_iff]

theorem slotted_seq {mi : Nat} {ma : Option Nat} {ps : List Particle} (h : slotted (.seq mi ma ps) = true) :
    mi ≤ 1 ∧ ma = some 1 ∧ slottedL ps = true := by
  simpa only [slotted, Bool.and_eq_true, decide_eq_true_eq, beq_iff_eq, and_assoc] using h
theorem slotted_group {g mi : Nat} {ma : Option Nat} {p : Particle} (h : slotted (.group g mi ma p) = true) :
    mi ≤ 1 ∧ ma = some 1 ∧ slotted p = true := by
  simpa only [slotted, Bool.and_eq_true, decide_eq_true_eq, beq_iff_eq, and_assoc] using h
theorem slottedL_cons {p : Particle} {ps : List Particle} (h : slottedL (p :: ps) = true) :
    slotted p = true ∧ slottedL ps = true := by
  simpa only [slottedL, Bool.and_eq_true] using h

theorem slot_shape {mi : Nat} {ma : Option Nat} {ps : List Particle} (h : isSlot (.choice mi ma ps) = true) :
    mi ≤ 1 ∧ ps ≠ [] ∧ (ma = none ∨ ma = some 1) ∧ ps.all isUnitLeaf = true := by
  simp only [isSlot, Bool.and_eq_true, Bool.or_eq_true, beq_iff_eq, decide_eq_true_eq, Bool.not_eq_true',
    List.isEmpty_eq_false_iff] at h
  exact ⟨h.1.1.1, h.1.1.2, h.1.2, h.2⟩

theorem unit_leaves_ne_nil {ps : List Particle} (hne : ps ≠ []) (hu : ps.all isUnitLeaf = true) :
    Particle.leavesL ps ≠ [] := by
  cases ps with
  | nil => exact absurd rfl hne
  | cons q qs =>
    rw [List.all_cons, Bool.and_eq_true] at hu
    obtain ⟨n, rfl⟩ := unitLeaf_eq hu.1
    exact List.cons_ne_nil n _

/-! ### okS / renderS: the word-level analogues of `Particle.ok` / `Particle.render` -/
mutual
def okS (w : List Nat) : Particle → Bool
  | .elem n mi ma => decide (mi ≤ cnt w n) && leMax (cnt w n) ma
  | .seq mi _ ps => (mi == 0 && Particle.empL (cnt w) ps) || okSL w ps
  | .choice mi ma ps =>
    decide (mi ≤ (restr (Particle.leavesL ps) w).length) && leMax (restr (Particle.leavesL ps) w).length ma
  | .group _ mi _ p => (mi == 0 && p.emp (cnt w)) || okS w p
def okSL (w : List Nat) : List Particle → Bool
  | [] => true
  | p :: ps => okS w p && okSL w ps
end

mutual
def renderS (w : List Nat) : Particle → List Nat
  | .elem n _ _ => restr [n] w
  | .seq _ _ ps => renderSL w ps
  | .choice _ _ ps => restr (Particle.leavesL ps) w
  | .group _ _ _ p => renderS w p
def renderSL (w : List Nat) : List Particle → List Nat
  | [] => []
  | p :: ps => renderS w p ++ renderSL w ps
end

theorem emp_zero (c : Nat → Nat) : (p : Particle) → p.emp c = true → ∀ n ∈ p.leaves, c n = 0 :=
  fun p => (emp_iff c p).1
theorem emp_of_zero (c : Nat → Nat) : (p : Particle) → (∀ n ∈ p.leaves, c n = 0) → p.emp c = true :=
  fun p => (emp_iff c p).2

/-! A list of particles `ps` is read as the sequence `.seq 1 (some 1) ps` around it: `leavesL`, `empL`,
`blocksL`, `renderSL` and `maxOKL` are by definition the functions without `L` at that sequence,
which is how the list forms of the lemmas below are obtained. -/

theorem emp_iff_restr_nil (w : List Nat) (p : Particle) : p.emp (cnt w) = true ↔ restr p.leaves w = [] := by
  simp only [emp_iff, restr, List.filter_eq_nil_iff, cnt, List.count_eq_zero, List.contains_iff_mem]
  exact ⟨fun h x hx hl => h x hl hx, fun h n hn hw => h n hw hn⟩
theorem empL_iff_restr_nil (w : List Nat) (ps : List Particle) :
    Particle.empL (cnt w) ps = true ↔ restr (Particle.leavesL ps) w = [] :=
  emp_iff_restr_nil w (.seq 1 (some 1) ps)

mutual
theorem blocks_names : (p : Particle) → (blocks p).flatMap (·.names) = p.leaves
  | .elem _ _ _ => rfl
  | .seq _ _ ps => blocksL_names ps
  | .choice _ _ _ => List.append_nil _
  | .group _ _ _ p => blocks_names p
theorem blocksL_names : (ps : List Particle) → (blocksL ps).flatMap (·.names) = Particle.leavesL ps
  | [] => rfl
  | p :: ps => by rw [blocksL, List.flatMap_append, blocks_names p, blocksL_names ps, Particle.leavesL]
end

theorem names_sub_leaves {p : Particle} {b : Block} (hb : b ∈ blocks p) : ∀ x ∈ b.names, x ∈ p.leaves :=
  fun _ hx => blocks_names p ▸ List.mem_flatMap.2 ⟨b, hb, hx⟩

mutual
theorem renderS_blocks (w : List Nat) : (p : Particle) → renderS w p = (blocks p).flatMap (fun b => restr b.names w)
  | .elem n _ _ => by simp [renderS, blocks]
  | .seq _ _ ps => renderSL_blocks w ps
  | .choice _ _ ps => by simp [renderS, blocks]
  | .group _ _ _ p => renderS_blocks w p
theorem renderSL_blocks (w : List Nat) : (ps : List Particle) →
    renderSL w ps = (blocksL ps).flatMap (fun b => restr b.names w)
  | [] => by simp [renderSL, blocksL]
  | p :: ps => by simp [renderSL, blocksL, renderS_blocks w p, renderSL_blocks w ps]
end

theorem renderS_congr (w w' : List Nat) (p : Particle) (h : restr p.leaves w = restr p.leaves w') :
    renderS w p = renderS w' p := by
  rw [renderS_blocks, renderS_blocks, List.flatMap_def, List.flatMap_def,
    List.map_congr_left fun b hb => restr_eq_of_sub (names_sub_leaves hb) h]

theorem renderS_subset (w : List Nat) (p : Particle) : ∀ x ∈ renderS w p, x ∈ p.leaves := fun x hx => by
  obtain ⟨b, hb, hxb⟩ := List.mem_flatMap.1 (renderS_blocks w p ▸ hx)
  exact names_sub_leaves hb x (restr_subset _ w x hxb)

theorem renderSL_subset (w : List Nat) (ps : List Particle) : ∀ x ∈ renderSL w ps, x ∈ Particle.leavesL ps :=
  renderS_subset w (.seq 1 (some 1) ps)

theorem renderS_emp (w : List Nat) (p : Particle) (h : p.emp (cnt w) = true) : renderS w p = [] := by
  rw [renderS_congr w [] p ((emp_iff_restr_nil w p).1 h), renderS_blocks]
  exact List.flatMap_eq_nil_iff.2 fun _ _ => rfl
theorem renderSL_emp (w : List Nat) (ps : List Particle) (h : Particle.empL (cnt w) ps = true) :
    renderSL w ps = [] :=
  renderS_emp w (.seq 1 (some 1) ps) h

mutual
theorem okS_congr (w w' : List Nat) : (p : Particle) → restr p.leaves w = restr p.leaves w' → okS w p = okS w' p
  | .elem n _ _, h => by rw [okS, okS, cnt_of_restr_eq h (List.mem_singleton_self n)]
  | .seq _ _ ps, h => by rw [okS, okS, okSL_congr w w' ps h, empL_congr ps fun _ => cnt_of_restr_eq h]
  | .choice _ _ ps, h => by
    rw [Particle.leaves] at h
    rw [okS, okS, h]
  | .group _ _ _ p, h => by rw [okS, okS, okS_congr w w' p h, emp_congr p fun _ => cnt_of_restr_eq h]
theorem okSL_congr (w w' : List Nat) : (ps : List Particle) →
    restr (Particle.leavesL ps) w = restr (Particle.leavesL ps) w' → okSL w ps = okSL w' ps
  | [], _ => rfl
  | p :: ps, h => by
    rw [okSL, okSL, okS_congr w w' p (restr_eq_of_sub (fun _ => List.mem_append_left _) h),
      okSL_congr w w' ps (restr_eq_of_sub (fun _ => List.mem_append_right _) h)]
end

mutual
theorem okS_perm (w w' : List Nat) (h : w'.Perm w) : (p : Particle) → okS w' p = okS w p
  | .elem n _ _ => by rw [okS, okS, cnt_perm h]
  | .seq _ _ ps => by rw [okS, okS, cnt_perm h, okSL_perm w w' h ps]
  | .choice _ _ ps => by rw [okS, okS, length_restr_perm h]
  | .group _ _ _ p => by rw [okS, okS, cnt_perm h, okS_perm w w' h p]
theorem okSL_perm (w w' : List Nat) (h : w'.Perm w) : (ps : List Particle) → okSL w' ps = okSL w ps
  | [] => rfl
  | p :: ps => by rw [okSL, okSL, okS_perm w w' h p, okSL_perm w w' h ps]
end

-- the language of a position that takes the names `S`, an element leaf (`S = [n]`) or a slot, on the left;
-- its count check and rendering on the right
theorem letters_iff_restr (S : List Nat) (mi : Nat) (ma : Option Nat) (w : List Nat) :
    (∀ x ∈ w, x ∈ S) ∧ mi ≤ w.length ∧ leMax w.length ma = true ↔
      (decide (mi ≤ (restr S w).length) && leMax (restr S w).length ma) = true ∧ w = restr S w := by
  rw [Bool.and_eq_true, decide_eq_true_eq]
  constructor
  · rintro ⟨hS, h⟩
    rw [restr_eq_self hS]
    exact ⟨h, rfl⟩
  · rintro ⟨h, hw⟩
    rw [← hw] at h
    exact ⟨fun x hx => restr_subset S w x (hw ▸ hx), h⟩

-- a scope `min..1` around a language: the empty word if optional, or one word of the language
theorem Rep_scope {L : List Nat → Prop} {mi : Nat} {w r : List Nat} {e x : Bool} (hmi : mi ≤ 1)
    (hnil : w = [] → e = true) (he : e = true → r = []) (ih : L w ↔ x = true ∧ w = r) :
    Rep L mi (some 1) w ↔ ((mi == 0 && e) || x) = true ∧ w = r := by
  simp only [Rep_one hmi, Bool.or_eq_true, Bool.and_eq_true, beq_iff_eq]
  constructor
  · rintro (⟨rfl, hw⟩ | h)
    · exact ⟨.inl ⟨rfl, hnil hw⟩, hw.trans (he (hnil hw)).symm⟩
    · exact ⟨.inr (ih.1 h).1, (ih.1 h).2⟩
  · rintro ⟨(⟨rfl, h⟩ | hok), hw⟩
    · exact .inl ⟨rfl, hw.trans (he h)⟩
    · exact .inr (ih.2 ⟨hok, hw⟩)

theorem Rep_scope_of_ok {L : List Nat → Prop} {mi : Nat} {r : List Nat} {e x : Bool} (hmi : mi ≤ 1)
    (he : e = true → r = []) (ih : x = true → L r) (h : ((mi == 0 && e) || x) = true) : Rep L mi (some 1) r := by
  simp only [Bool.or_eq_true, Bool.and_eq_true, beq_iff_eq] at h
  exact (Rep_one hmi).2 (h.imp (fun h => ⟨h.1, he h.2⟩) ih)

mutual
theorem slotted_iff : (p : Particle) → slotted p = true → p.leaves.Nodup → (w : List Nat) →
    (p.Lang w ↔ okS w p = true ∧ w = renderS w p)
  | .elem n mi ma, _, _, w => by
    rw [Particle.Lang, Rep_elem, okS, renderS, ← length_restr_single]
    exact letters_iff_restr [n] mi ma w
  | .seq mi ma ps, hf, hnd, w => by
    obtain ⟨hmi, rfl, hfl⟩ := slotted_seq hf
    exact Rep_scope hmi (fun h => h ▸ empL_nil ps) (renderSL_emp w ps) (slottedL_iff ps hfl hnd w)
  | .choice mi ma ps, hf, hnd, w => by
    obtain ⟨_, _, _, hu⟩ := slot_shape hf
    rw [lang_rootChoice hu, okS, renderS]
    exact letters_iff_restr _ mi ma w
  | .group g mi ma p, hf, hnd, w => by
    obtain ⟨hmi, rfl, hfl⟩ := slotted_group hf
    exact Rep_scope hmi (fun h => h ▸ emp_nil p) (renderS_emp w p) (slotted_iff p hfl hnd w)
theorem slottedL_iff : (ps : List Particle) → slottedL ps = true → (Particle.leavesL ps).Nodup → (w : List Nat) →
    (Particle.LangSeq ps w ↔ okSL w ps = true ∧ w = renderSL w ps)
  | [], _, _, w => by simp [Particle.LangSeq, okSL, renderSL]
  | p :: ps, hf, hnd, w => by
    have hf := slottedL_cons hf
    obtain ⟨hn1, hn2, hdisj⟩ := Particle.nodup_leavesL_cons hnd
    -- of a word `u ++ v`, `u` over the leaves of `p` and `v` over those of `ps`, the head sees `u` and the tail `v`
    have key : ∀ u v, (∀ x ∈ u, x ∈ p.leaves) → (∀ x ∈ v, x ∈ Particle.leavesL ps) →
        (okS (u ++ v) p = okS u p ∧ renderS (u ++ v) p = renderS u p) ∧
        okSL (u ++ v) ps = okSL v ps ∧ renderSL (u ++ v) ps = renderSL v ps := by
      intro u v su sv
      have ru : restr p.leaves (u ++ v) = restr p.leaves u := restr_append_left fun x hx hp => hdisj x hp (sv x hx)
      have rv : restr (Particle.leavesL ps) (u ++ v) = restr (Particle.leavesL ps) v :=
        restr_append_right fun x hx => hdisj x (su x hx)
      exact ⟨⟨okS_congr _ _ p ru, renderS_congr _ _ p ru⟩, okSL_congr _ _ ps rv, renderS_congr _ _ (.seq 1 (some 1) ps) rv⟩
    simp only [Particle.LangSeq, okSL, renderSL, Bool.and_eq_true]
    constructor
    · rintro ⟨u, v, rfl, hu, hv⟩
      obtain ⟨⟨h1, h2⟩, h3, h4⟩ := key u v (Particle.Lang_subset p u hu) (Particle.LangSeq_subset ps v hv)
      have ihu := (slotted_iff p hf.1 hn1 u).1 hu
      have ihv := (slottedL_iff ps hf.2 hn2 v).1 hv
      rw [h1, h2, h3, h4, ← ihu.2, ← ihv.2]
      exact ⟨⟨ihu.1, ihv.1⟩, rfl⟩
    · rintro ⟨⟨hok1, hok2⟩, hw⟩
      obtain ⟨⟨h1, h2⟩, h3, h4⟩ := key _ _ (renderS_subset w p) (renderSL_subset w ps)
      rw [← hw] at h1 h2 h3 h4
      exact ⟨_, _, hw, (slotted_iff p hf.1 hn1 _).2 ⟨h1 ▸ hok1, h2⟩,
        (slottedL_iff ps hf.2 hn2 _).2 ⟨h3 ▸ hok2, h4⟩⟩
end

mutual
def maxOK (w : List Nat) : Particle → Bool
  | .elem n _ ma => leMax (cnt w n) ma
  | .seq _ _ ps => maxOKL w ps
  | .choice _ ma ps => leMax (restr (Particle.leavesL ps) w).length ma
  | .group _ _ _ p => maxOK w p
def maxOKL (w : List Nat) : List Particle → Bool
  | [] => true
  | p :: ps => maxOK w p && maxOKL w ps
end

def fits (w : List Nat) (b : Block) : Bool := leMax (restr b.names w).length b.max

mutual
theorem maxOK_blocks (w : List Nat) : (p : Particle) → maxOK w p = (blocks p).all (fits w)
  | .elem n _ ma => by
    simp only [maxOK, blocks, List.all_cons, List.all_nil, Bool.and_true, fits, length_restr_single]
  | .seq _ _ ps => maxOKL_blocks w ps
  | .choice _ _ _ => (Bool.and_true _).symm
  | .group _ _ _ p => maxOK_blocks w p
theorem maxOKL_blocks (w : List Nat) : (ps : List Particle) → maxOKL w ps = (blocksL ps).all (fits w)
  | [] => rfl
  | p :: ps => by rw [maxOKL, blocksL, List.all_append, maxOK_blocks w p, maxOKL_blocks w ps]
end

theorem fits_nil (b : Block) : fits [] b = true := leMax_iff.2 fun _ _ => Nat.zero_le _

theorem fits_sublist {w w' : List Nat} (h : w'.Sublist w) {b : Block} (hb : fits w b = true) : fits w' b = true :=
  leMax_mono (h.filter _).length_le hb

theorem fits_perm {w w' : List Nat} (h : w'.Perm w) (b : Block) : fits w' b = fits w b := by
  rw [fits, fits, length_restr_perm h]

theorem fits_congr {S w w' : List Nat} {b : Block} (hS : ∀ x ∈ b.names, x ∈ S) (h : restr S w = restr S w') :
    fits w b = fits w' b := by
  rw [fits, fits, restr_eq_of_sub hS h]

theorem maxOK_nil (p : Particle) : maxOK [] p = true := by
  rw [maxOK_blocks, List.all_eq_true]; exact fun b _ => fits_nil b
theorem maxOKL_nil : (ps : List Particle) → maxOKL [] ps = true :=
  fun ps => maxOK_nil (.seq 1 (some 1) ps)

theorem maxOK_sublist (w w' : List Nat) (h : w'.Sublist w) (p : Particle) (hm : maxOK w p = true) :
    maxOK w' p = true := by
  rw [maxOK_blocks, List.all_eq_true] at hm ⊢
  exact fun b hb => fits_sublist h (hm b hb)
theorem maxOKL_sublist (w w' : List Nat) (h : w'.Sublist w) : (ps : List Particle) → maxOKL w ps = true → maxOKL w' ps = true :=
  fun ps => maxOK_sublist w w' h (.seq 1 (some 1) ps)

theorem maxOK_perm (w w' : List Nat) (h : w'.Perm w) : (p : Particle) → maxOK w' p = maxOK w p :=
  fun p => by rw [maxOK_blocks, maxOK_blocks, funext (fits_perm h)]
theorem maxOKL_perm (w w' : List Nat) (h : w'.Perm w) : (ps : List Particle) → maxOKL w' ps = maxOKL w ps :=
  fun ps => maxOK_perm w w' h (.seq 1 (some 1) ps)

theorem maxOK_congr (w w' : List Nat) (p : Particle) (h : restr p.leaves w = restr p.leaves w') :
    maxOK w p = maxOK w' p := by
  rw [maxOK_blocks, maxOK_blocks, Bool.eq_iff_iff, List.all_eq_true, List.all_eq_true]
  exact forall₂_congr fun b hb => by rw [fits_congr (names_sub_leaves hb) h]
theorem maxOKL_congr (w w' : List Nat) (ps : List Particle)
    (h : restr (Particle.leavesL ps) w = restr (Particle.leavesL ps) w') : maxOKL w ps = maxOKL w' ps :=
  maxOK_congr w w' (.seq 1 (some 1) ps) h

theorem maxOK_of_emp (w : List Nat) (p : Particle) (h : p.emp (cnt w) = true) : maxOK w p = true :=
  (maxOK_congr w [] p ((emp_iff_restr_nil w p).1 h)).trans (maxOK_nil p)

mutual
theorem place_absent_iff (w : List Nat) (n : Nat) : (p : Particle) → (place w n p = .absent ↔ n ∉ p.leaves)
  | .elem m _ ma => by
    simp only [place, Particle.leaves, List.mem_singleton]
    by_cases h : m = n
    · subst h; simp only [beq_self_eq_true, if_true, not_true_eq_false, iff_false]; split <;> nofun
    · simp [h, Ne.symm h]
  | .seq _ _ ps => placeL_absent_iff w n ps
  | .choice _ ma ps => by
    simp only [place, Particle.leaves, List.contains_iff_mem]
    by_cases h : n ∈ Particle.leavesL ps
    · simp only [h, if_true, not_true_eq_false, iff_false]
      repeat' split
      all_goals nofun
    · simp [h]
  | .group _ _ _ p => place_absent_iff w n p
theorem placeL_absent_iff (w : List Nat) (n : Nat) : (ps : List Particle) →
    (placeL w n ps = .absent ↔ n ∉ Particle.leavesL ps)
  | [] => by simp [placeL, Particle.leavesL]
  | p :: ps => by
    simp only [placeL, Particle.leavesL, List.mem_append, not_or, ← place_absent_iff w n p,
      ← placeL_absent_iff w n ps]
    cases place w n p <;> simp
end

theorem placeL_cons (w : List Nat) (n : Nat) (p : Particle) (ps : List Particle) :
    placeL w n (p :: ps) = if n ∈ p.leaves then place w n p else placeL w n ps := by
  by_cases hn : n ∈ p.leaves
  · rw [if_pos hn, placeL]
    split
    · exact absurd hn ((place_absent_iff w n p).1 ‹_›)
    · rfl
  · rw [if_neg hn, placeL, (place_absent_iff w n p).2 hn]

mutual
theorem place_ok_iff (w : List Nat) (n : Nat) : (p : Particle) → slotted p = true → p.leaves.Nodup →
    maxOK w p = true → (place w n p = .ok ↔ n ∈ p.leaves ∧ maxOK (w ++ [n]) p = true)
  | .elem m _ ma, _, _, _ => by
    simp only [place, Particle.leaves, List.mem_singleton, maxOK]
    by_cases h : m = n
    · subst h; simp [cnt_snoc]
    · simp [h, Ne.symm h]
  | .seq _ _ ps, hs, hnd, hm => placeL_ok_iff w n ps (slotted_seq hs).2.2 hnd hm
  | .choice _ ma ps, hs, _, hm => by
    obtain ⟨_, _, hma, _⟩ := slot_shape hs
    simp only [place, Particle.leaves, maxOK, List.contains_iff_mem]
    by_cases hn : n ∈ Particle.leavesL ps
    · simp only [hn, if_true, true_and, restr_snoc_mem hn, List.length_append, List.length_singleton]
      -- unbounded: always placed; `max = 1`: placed iff the slot is still empty
      rcases hma with rfl | rfl
      · simp [leMax]
      · cases restr (Particle.leavesL ps) w <;> simp [leMax]
        split <;> nofun
    · simp [hn]
  | .group _ _ _ p, hs, hnd, hm => place_ok_iff w n p (slotted_group hs).2.2 hnd hm
theorem placeL_ok_iff (w : List Nat) (n : Nat) : (ps : List Particle) → slottedL ps = true →
    (Particle.leavesL ps).Nodup → maxOKL w ps = true →
    (placeL w n ps = .ok ↔ n ∈ Particle.leavesL ps ∧ maxOKL (w ++ [n]) ps = true)
  | [], _, _, _ => by simp [placeL, Particle.leavesL]
  | p :: ps, hs, hnd, hm => by
    have hs := slottedL_cons hs
    obtain ⟨hn1, hn2, hdisj⟩ := Particle.nodup_leavesL_cons hnd
    simp only [maxOKL, Bool.and_eq_true] at hm
    simp only [placeL_cons, Particle.leavesL, List.mem_append, maxOKL, Bool.and_eq_true]
    -- the particle that knows the name decides, and the bounds of the others do not see the new child
    by_cases hn : n ∈ p.leaves
    · rw [if_pos hn, place_ok_iff w n p hs.1 hn1 hm.1, maxOKL_congr _ w ps (restr_snoc_not_mem (hdisj n hn))]
      simp [hn, hm.2]
    · rw [if_neg hn, placeL_ok_iff w n ps hs.2 hn2 hm.2, maxOK_congr _ w p (restr_snoc_not_mem hn)]
      simp [hn, hm.1]
end

theorem place_ok_maxOK (w : List Nat) (n : Nat) : (p : Particle) → slotted p = true → p.leaves.Nodup →
    maxOK w p = true → place w n p = .ok → maxOK (w ++ [n]) p = true :=
  fun p hs hnd hm h => ((place_ok_iff w n p hs hnd hm).1 h).2
theorem placeL_ok_maxOK (w : List Nat) (n : Nat) : (ps : List Particle) → slottedL ps = true →
    (Particle.leavesL ps).Nodup → maxOKL w ps = true → placeL w n ps = .ok → maxOKL (w ++ [n]) ps = true :=
  fun ps hs hnd hm h => ((placeL_ok_iff w n ps hs hnd hm).1 h).2

theorem place_ok_of_maxOK (w : List Nat) (n : Nat) : (p : Particle) → slotted p = true → p.leaves.Nodup →
    n ∈ p.leaves → maxOK (w ++ [n]) p = true → place w n p = .ok :=
  fun p hs hnd hn hm =>
    (place_ok_iff w n p hs hnd (maxOK_sublist _ w (List.sublist_append_left w [n]) p hm)).2 ⟨hn, hm⟩
theorem placeL_ok_of_maxOK (w : List Nat) (n : Nat) : (ps : List Particle) → slottedL ps = true →
    (Particle.leavesL ps).Nodup → n ∈ Particle.leavesL ps → maxOKL (w ++ [n]) ps = true → placeL w n ps = .ok :=
  fun ps hs hnd hn hm =>
    (placeL_ok_iff w n ps hs hnd (maxOKL_sublist _ w (List.sublist_append_left w [n]) ps hm)).2 ⟨hn, hm⟩

mutual
theorem okS_iff_missing (w : List Nat) : (p : Particle) → slotted p = true → maxOK w p = true →
    (okS w p = true ↔ missing (cnt w) p = [])
  | .elem n mi ma, _, hm => by
    simp only [maxOK] at hm
    simp only [okS, missing, Bool.and_eq_true, decide_eq_true_eq, hm, and_true]
    split
    · simp only [List.cons_ne_nil, iff_false]; omega
    · simp only [iff_true]; omega
  | .seq mi ma ps, hs, hm => scope_ok_iff_missing (okSL_iff_missingL w ps (slotted_seq hs).2.2 hm)
  | .choice mi ma ps, hs, hm => by
    -- required and empty is what is reported; the slot holds `min ≤ 1`, so anything else is enough
    obtain ⟨hmi, hne, _, hu⟩ := slot_shape hs
    have hl := unit_leaves_ne_nil hne hu
    have he : Particle.empL (cnt w) ps = true ↔ (restr (Particle.leavesL ps) w).length = 0 := by
      rw [empL_iff_restr_nil, List.length_eq_zero_iff]
    simp only [maxOK] at hm
    simp only [okS, missing, Bool.and_eq_true, decide_eq_true_eq, hm, and_true, he]
    split
    · simp only [hl, iff_false]; omega
    · simp only [iff_true]; omega
  | .group _ mi ma p, hs, hm => scope_ok_iff_missing (okS_iff_missing w p (slotted_group hs).2.2 hm)
theorem okSL_iff_missingL (w : List Nat) : (ps : List Particle) → slottedL ps = true → maxOKL w ps = true →
    (okSL w ps = true ↔ missingL (cnt w) ps = [])
  | [], _, _ => by simp [okSL, missingL]
  | p :: ps, hs, hm => by
    have hs := slottedL_cons hs
    simp only [maxOKL, Bool.and_eq_true] at hm
    simp only [okSL, missingL, Bool.and_eq_true, List.append_eq_nil_iff,
      okS_iff_missing w p hs.1 hm.1, okSL_iff_missingL w ps hs.2 hm.2]
end

mutual
theorem maxOK_of_okS (w : List Nat) : (p : Particle) → okS w p = true → maxOK w p = true
  | .elem n _ _, h => (Bool.and_eq_true_iff.1 h).2
  | .seq mi _ ps, h => by
    simp only [okS, Bool.or_eq_true, Bool.and_eq_true] at h
    exact h.elim (fun h => maxOK_of_emp w (.seq 1 (some 1) ps) h.2) (maxOKL_of_okSL w ps)
  | .choice _ _ ps, h => (Bool.and_eq_true_iff.1 h).2
  | .group _ mi _ p, h => by
    simp only [okS, Bool.or_eq_true, Bool.and_eq_true] at h
    exact h.elim (fun h => maxOK_of_emp w p h.2) (maxOK_of_okS w p)
theorem maxOKL_of_okSL (w : List Nat) : (ps : List Particle) → okSL w ps = true → maxOKL w ps = true
  | [], _ => rfl
  | p :: ps, h => by
    simp only [okSL, Bool.and_eq_true] at h
    simp [maxOKL, maxOK_of_okS w p h.1, maxOKL_of_okSL w ps h.2]
end

mutual
theorem lang_renderS (w : List Nat) : (p : Particle) → slotted p = true → okS w p = true → p.Lang (renderS w p)
  | .elem n mi ma, _, h => by
    simp only [okS, Bool.and_eq_true, decide_eq_true_eq, ← length_restr_single] at h
    exact Rep_elem.2 ⟨restr_subset _ w, h⟩
  | .seq mi ma ps, hs, h => by
    obtain ⟨hmi, rfl, hsl⟩ := slotted_seq hs
    exact Rep_scope_of_ok hmi (renderSL_emp w ps) (langSeq_renderSL w ps hsl) h
  | .choice mi ma ps, hs, h => by
    obtain ⟨_, _, _, hu⟩ := slot_shape hs
    simp only [okS, Bool.and_eq_true, decide_eq_true_eq] at h
    exact (lang_rootChoice hu _).2 ⟨restr_subset _ w, h⟩
  | .group g mi ma p, hs, h => by
    obtain ⟨hmi, rfl, hsl⟩ := slotted_group hs
    exact Rep_scope_of_ok hmi (renderS_emp w p) (lang_renderS w p hsl) h
theorem langSeq_renderSL (w : List Nat) : (ps : List Particle) → slottedL ps = true → okSL w ps = true →
    Particle.LangSeq ps (renderSL w ps)
  | [], _, _ => by simp [Particle.LangSeq, renderSL]
  | p :: ps, hs, h => by
    have hs := slottedL_cons hs
    simp only [okSL, Bool.and_eq_true] at h
    exact ⟨_, _, rfl, lang_renderS w p hs.1 h.1, langSeq_renderSL w ps hs.2 h.2⟩
end

theorem inBlock_eq_self {b : Block} {k : Kids} (hk : ∀ c ∈ k, c.2 ∈ b.names) : inBlock b k = k :=
  List.filter_eq_self.2 fun x hx => List.contains_iff_mem.2 (hk x hx)

theorem names_inBlock (b : Block) (k : Kids) : names (inBlock b k) = restr b.names (names k) := by
  simp only [names, inBlock, restr, List.filter_map]
  rfl

theorem names_ordered (p : Particle) (k : Kids) : names (ordered p k) = renderS (names k) p := by
  rw [renderS_blocks, ordered, names, List.map_flatMap]
  exact congrArg (List.flatMap · (blocks p)) (funext fun b => names_inBlock b k)

def stepS (p : Particle) (k : Kids) : Op → Except Err Kids
  | .add c n f => Mslot.add p k c n f
  | .rm c => remove k c
  | .repl o nw n => replace k o nw n

def applyS (p : Particle) (k : Kids) (op : Op) : Kids :=
  match stepS p k op with
  | .ok k' => k'
  | .error _ => k

def runS (p : Particle) (ops : List Op) : Kids := ops.foldl (applyS p) []

def runES (p : Particle) : Kids → List Op → Except Err Kids
  | k, [] => .ok k
  | k, op :: r => match stepS p k op with
    | .ok k' => runES p k' r
    | .error e => .error e

theorem add_ok_iff {p : Particle} {k k' : Kids} {c n : Nat} {f : Option Int} :
    Mslot.add p k c n f = .ok k' ↔
      fwdCheck p k n f = none ∧ place (names k) n p = .ok ∧ k' = k ++ [(c, n)] := by
  rw [Mslot.add, addPlain]
  cases fwdCheck p k n f <;> cases place (names k) n p <;> simp [eq_comm]

/-- without a forward index a child whose name is a leaf is accepted as soon as the bounds allow one more -/
theorem add_none_ok {p : Particle} (hs : isSlotted p = true) (k : Kids) (c : Nat) {n : Nat} (hn : n ∈ p.leaves)
    (hm : maxOK (names k ++ [n]) p = true) : Mslot.add p k c n none = .ok (k ++ [(c, n)]) :=
  have ⟨hsl, hnd⟩ := isSlotted_iff.1 hs
  add_ok_iff.2 ⟨rfl, place_ok_of_maxOK (names k) n p hsl hnd hn hm, rfl⟩

def InvS (p : Particle) (k : Kids) : Prop := (∀ c ∈ k, c.2 ∈ p.leaves) ∧ maxOK (names k) p = true

theorem invS_nil (p : Particle) : InvS p [] := ⟨nofun, maxOK_nil p⟩

theorem invS_add {p : Particle} (hs : isSlotted p = true) {k k' : Kids} {c n : Nat} {f : Option Int}
    (hi : InvS p k) (h : Mslot.add p k c n f = .ok k') : InvS p k' := by
  obtain ⟨-, hp, rfl⟩ := add_ok_iff.1 h
  obtain ⟨hsl, hnd⟩ := isSlotted_iff.1 hs
  obtain ⟨hn, hm⟩ := (place_ok_iff (names k) n p hsl hnd hi.2).1 hp
  refine ⟨fun x hx => ?_, by rwa [names_append]⟩
  exact (List.mem_append.1 hx).elim (hi.1 x) fun h => List.mem_singleton.1 h ▸ hn

theorem invS_remove {p : Particle} {k k' : Kids} {c : Nat} (hi : InvS p k) (h : remove k c = .ok k') : InvS p k' := by
  obtain rfl := remove_ok h
  exact ⟨fun x hx => hi.1 x (List.mem_filter.1 hx).1,
    maxOK_sublist (names k) _ (List.filter_sublist.map _) p hi.2⟩

theorem invS_replace {p : Particle} {k k' : Kids} {o nw n : Nat} (hi : InvS p k) (h : replace k o nw n = .ok k') :
    InvS p k' := by
  obtain ⟨⟨c, hfind⟩, rfl⟩ := replace_ok h
  have hn := names_replFirst nw hfind
  exact ⟨forall_names.1 (hn ▸ forall_names.2 hi.1), hn ▸ hi.2⟩

theorem invS_step {p : Particle} (hs : isSlotted p = true) {k k' : Kids} {op : Op} (hi : InvS p k)
    (h : stepS p k op = .ok k') : InvS p k' := by
  cases op with
  | add c n f => exact invS_add hs hi h
  | rm c => exact invS_remove hi h
  | repl o nw n => exact invS_replace hi h

theorem invS_apply {p : Particle} (hs : isSlotted p = true) {k : Kids} (op : Op) (hi : InvS p k) :
    InvS p (applyS p k op) := by
  unfold applyS
  split
  · exact invS_step hs hi ‹_›
  · exact hi

theorem invS_runES {p : Particle} (hs : isSlotted p = true) {ops : List Op} {k k' : Kids} (hi : InvS p k)
    (h : runES p k ops = .ok k') : InvS p k' := by
  induction ops generalizing k with
  | nil => cases h; exact hi
  | cons op r ih =>
    simp only [runES] at h
    split at h
    · exact ih (invS_step hs hi ‹_›) h
    · cases h

theorem stepS_ok {p : Particle} {k k' : Kids} {op : Op} (h : stepS p k op = .ok k') : k' = ledger k op := by
  cases op with
  | add c n f => exact (add_ok_iff.1 h).2.2
  | rm c => exact remove_ok h
  | repl o nw n => exact (replace_ok h).2

theorem applyS_ledger (p : Particle) (k : Kids) (op : Op) : applyS p k op = k ∨ applyS p k op = ledger k op := by
  unfold applyS
  split
  · exact .inr (stepS_ok ‹_›)
  · exact .inl rfl

theorem invS_run (p : Particle) (hs : isSlotted p = true) (ops : List Op) : InvS p (runS p ops) := by
  have : ∀ k, InvS p k → InvS p (ops.foldl (applyS p) k) := by
    induction ops with
    | nil => intro k hk; exact hk
    | cons op r ih => intro k hk; exact ih _ (invS_apply hs op hk)
  exact this [] (invS_nil p)

theorem runES_addsK (p : Particle) (hs : isSlotted p = true) (acc k : Kids)
    (hsub : ∀ c ∈ k, c.2 ∈ p.leaves) (hmax : maxOK (names (acc ++ k)) p = true) :
    runES p acc (addOpsK k) = .ok (acc ++ k) := by
  induction k generalizing acc with
  | nil => simp [runES, addOpsK]
  | cons c k ih =>
    have hpre : maxOK (names acc ++ [c.2]) p = true := by
      apply maxOK_sublist (names (acc ++ c :: k)) _ _ p hmax
      simp only [names, List.map_append, List.map_cons]
      exact List.Sublist.append_left (List.Sublist.cons_cons _ (List.nil_sublist _)) _
    have hstep : stepS p acc (.add c.1 c.2 none) = .ok (acc ++ [c]) := add_none_ok hs acc c.1 (hsub c (by simp)) hpre
    simp only [addOpsK, List.map_cons, runES, hstep]
    have := ih (acc ++ [c]) (fun x hx => hsub x (by simp [hx])) (by simpa using hmax)
    simpa [addOpsK] using this

theorem addOps_eq (i : Nat) (w : List Nat) : addOps i w = addOpsK (zipIds i w) := by
  induction w generalizing i with
  | nil => rfl
  | cons n w ih => simp [addOps, zipIds, addOpsK, ih (i + 1)]

theorem runES_adds (p : Particle) (hs : isSlotted p = true) (k : Kids) (i : Nat) (w : List Nat)
    (hsub : ∀ x ∈ w, x ∈ p.leaves) (hmax : maxOK (names k ++ w) p = true) :
    runES p k (addOps i w) = .ok (k ++ zipIds i w) := by
  rw [addOps_eq]
  exact runES_addsK p hs k _ (forall_names.1 (by rwa [names_zipIds])) (by rwa [names_append, names_zipIds])

end Mslot
