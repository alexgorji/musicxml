import MxV.Model.Serialize
/-! # What `to_string()` writes can be read back: a decoder and its round-trip theorem

`parseNode` is a small recursive-descent reader for the XML subset the serialiser emits (start tags
with double-quoted attributes, the four named and three numeric references `_escape_attrib` writes,
character data, end tags, ` />` for empty elements, white-space-only character
data between child elements ignored — exactly what an XML infoset comparison ignores).
`parseNode_render`: for every well-formed tree, at every indentation level, followed by anything,

    parseNode f (renderL base d n ++ rest) = some (canon n, rest)        (any fuel `f ≥ size n`)

where `canon` forgets only what `ET.indent` overwrites (blank text of an element that has children)
and the `None` / `''` distinction of an empty leaf. Hence the serialiser is **injective** on canonical
trees and every string in text or attribute position is recovered exactly (no hypothesis on the
strings: markup characters, quotes, white space, any code point). -/
namespace Serialize
open Values

def nameStop (c : Char) : Bool := c == ' ' || c == '>' || c == '/' || c == '=' || c == '<' || c == '"'

def readName : List Char → List Char × List Char
  | [] => ([], [])
  | c :: r => if nameStop c then ([], c :: r) else ((readName r).1.cons c, (readName r).2)

def consV (c : Char) (o : Option (List Char × List Char)) : Option (List Char × List Char) :=
  o.map fun p => (c :: p.1, p.2)

/-- attribute value up to the closing quote, references expanded -/
def readVal : List Char → Option (List Char × List Char)
  | [] => none
  | '"' :: r => some ([], r)
  | '&' :: 'a' :: 'm' :: 'p' :: ';' :: r => consV '&' (readVal r)
  | '&' :: 'l' :: 't' :: ';' :: r => consV '<' (readVal r)
  | '&' :: 'g' :: 't' :: ';' :: r => consV '>' (readVal r)
  | '&' :: 'q' :: 'u' :: 'o' :: 't' :: ';' :: r => consV '"' (readVal r)
  | '&' :: '#' :: '1' :: '3' :: ';' :: r => consV '\r' (readVal r)
  | '&' :: '#' :: '1' :: '0' :: ';' :: r => consV '\n' (readVal r)
  | '&' :: '#' :: '0' :: '9' :: ';' :: r => consV '\t' (readVal r)
  | c :: r => consV c (readVal r)

def consT (c : Char) (p : List Char × List Char) : List Char × List Char := (c :: p.1, p.2)

/-- character data up to the next `<`, references expanded -/
def readText : List Char → List Char × List Char
  | [] => ([], [])
  | '<' :: r => ([], '<' :: r)
  | '&' :: 'a' :: 'm' :: 'p' :: ';' :: r => consT '&' (readText r)
  | '&' :: 'l' :: 't' :: ';' :: r => consT '<' (readText r)
  | '&' :: 'g' :: 't' :: ';' :: r => consT '>' (readText r)
  | c :: r => consT c (readText r)

def readAttrs : Nat → List Char → Option (List (List Char × List Char) × List Char)
  | 0, _ => none
  | f + 1, s =>
    match s with
    | ' ' :: c :: r =>
      if c == '/' then some ([], s)
      else
        (match (readName (c :: r)).2 with
          | '=' :: '"' :: r2 =>
            (match readVal r2 with
              | some (v, r3) => (readAttrs f r3).map fun p => (((readName (c :: r)).1, v) :: p.1, p.2)
              | none => none)
          | _ => none)
    | _ => some ([], s)

def stripPrefix : List Char → List Char → Option (List Char)
  | [], s => some s
  | c :: p, x :: s => if c == x then stripPrefix p s else none
  | _ :: _, [] => none

def expectClose (nm : List Char) (s : List Char) (n : XNode) : Option (XNode × List Char) :=
  match stripPrefix (nm ++ ['>']) s with
  | some r => some (n, r)
  | none => none

mutual
def parseNode : Nat → List Char → Option (XNode × List Char)
  | 0, _ => none
  | f + 1, s0 =>
    match s0 with
    | '<' :: s =>
      (match readAttrs ((readName s).2.length + 1) (readName s).2 with
      | none => none
      | some (as, s2) =>
        (match s2 with
          | ' ' :: '/' :: '>' :: r => some (⟨(readName s).1, as, none, []⟩, r)
          | '>' :: s3 =>
            (match (readText s3).2 with
              | '<' :: c2 :: s5 =>
                if c2 == '/' then
                  expectClose (readName s).1 s5 ⟨(readName s).1, as, some (readText s3).1, []⟩
                else
                  (match parseKids f ('<' :: c2 :: s5) with
                    | some (cs, '<' :: '/' :: s7) =>
                      expectClose (readName s).1 s7
                        ⟨(readName s).1, as, if isBlankL (readText s3).1 then none else some (readText s3).1, cs⟩
                    | _ => none)
              | _ => none)
          | _ => none))
    | _ => none
def parseKids : Nat → List Char → Option (List XNode × List Char)
  | 0, _ => none
  | f + 1, s =>
    match s.dropWhile pyIsSpace with
    | '<' :: c2 :: r =>
      if c2 == '/' then some ([], '<' :: c2 :: r)
      else
        (match parseNode f ('<' :: c2 :: r) with
          | some (c, r1) => (parseKids f r1).map fun p => (c :: p.1, p.2)
          | none => none)
    | _ => none
end

mutual
def canon : XNode → XNode
  | ⟨n, a, t, cs⟩ =>
    match cs with
    | [] => ⟨n, a, (match t with
        | some t => if t.isEmpty then none else some t
        | none => none), []⟩
    | c :: cs => ⟨n, a, (match t with
        | some t => if isBlankL t then none else some t
        | none => none), canonL (c :: cs)⟩
def canonL : List XNode → List XNode
  | [] => []
  | c :: cs => canon c :: canonL cs
end

def goodName (n : List Char) : Bool := !n.isEmpty && n.all fun c => !nameStop c

mutual
def WF : XNode → Bool
  | ⟨n, a, _, cs⟩ => goodName n && a.all (fun p => goodName p.1) && WFL cs
def WFL : List XNode → Bool
  | [] => true
  | c :: cs => WF c && WFL cs
end

mutual
def size : XNode → Nat
  | ⟨_, _, _, cs⟩ => 1 + sizeL cs
def sizeL : List XNode → Nat
  | [] => 1
  | c :: cs => 1 + size c + sizeL cs
end

def ref1 : List (Char × List Char) → Char → List Char
  | [], c => [c]
  | (k, e) :: t, c => if c == k then e else ref1 t c

def escBy (tbl : List (Char × List Char)) (s : List Char) : List Char := s.flatMap (ref1 tbl)

/-- what `_escape_attrib` replaces; `_escape_cdata` replaces the first three -/
def refs : List (Char × List Char) :=
  [('&', "&amp;".toList), ('<', "&lt;".toList), ('>', "&gt;".toList), ('"', "&quot;".toList),
   ('\r', "&#13;".toList), ('\n', "&#10;".toList), ('\t', "&#09;".toList)]

theorem escA_eq : ∀ s, escA s = escBy refs s
  | [] => rfl
  | _ :: r => congrArg (_ ++ ·) (escA_eq r)

theorem escT_eq : ∀ s, escT s = escBy (refs.take 3) s
  | [] => rfl
  | _ :: r => congrArg (_ ++ ·) (escT_eq r)

theorem ref1_cases (tbl : List (Char × List Char)) (c : Char) :
    (c, ref1 tbl c) ∈ tbl ∨ ref1 tbl c = [c] ∧ ∀ k ∈ tbl.map Prod.fst, c ≠ k := by
  induction tbl with
  | nil => exact .inr ⟨rfl, nofun⟩
  | cons p t ih =>
    obtain ⟨k, e⟩ := p
    by_cases h : c = k
    · exact .inl (by simp [ref1, h])
    · rw [ref1, if_neg (by simpa using h)]
      exact ih.imp (List.mem_cons_of_mem _) (.imp_right (List.forall_mem_cons.2 ⟨h, ·⟩))

theorem read_escBy {β : Type} {rd : List Char → β} {step : Char → β → β} {tbl : List (Char × List Char)}
    (href : ∀ p ∈ tbl, ∀ r, rd (p.2 ++ r) = step p.1 (rd r))
    (hother : ∀ c, (∀ k ∈ tbl.map Prod.fst, c ≠ k) → ∀ r, rd (c :: r) = step c (rd r)) (s r : List Char) :
    rd (escBy tbl s ++ r) = s.foldr step (rd r) := by
  induction s with
  | nil => rfl
  | cons c s ih =>
    rw [escBy, List.flatMap_cons, List.append_assoc, List.foldr_cons, ← ih]
    rcases ref1_cases tbl c with h | ⟨h, hc⟩
    · exact href _ h _
    · rw [h]; exact hother c hc _

theorem not_mem_escBy {tbl : List (Char × List Char)} {x : Char} (hx : x ∈ tbl.map Prod.fst)
    (he : ∀ p ∈ tbl, x ∉ p.2) (s : List Char) : x ∉ escBy tbl s := by
  intro h
  obtain ⟨c, -, hc⟩ := List.mem_flatMap.1 h
  rcases ref1_cases tbl c with h' | ⟨h', hk⟩
  · exact he _ h' hc
  · rw [h', List.mem_singleton] at hc; exact hk x hx hc.symm

theorem readName_good : ∀ (n : List Char) (c : Char) (rest : List Char),
    (n.all fun x => !nameStop x) = true → nameStop c = true → readName (n ++ c :: rest) = (n, c :: rest)
  | [], c, rest, _, hc => by simp [readName, hc]
  | x :: n, c, rest, hn, hc => by
    simp only [List.all_cons, Bool.and_eq_true, Bool.not_eq_true'] at hn
    have ih := readName_good n c rest hn.2 hc
    simp [readName, hn.1, ih]

-- the side goals: every earlier equation of `readVal` needs `c = '"'` or `c = '&'`
theorem readVal_other {c : Char} (r : List Char) (h1 : c ≠ '"') (h2 : c ≠ '&') :
    readVal (c :: r) = consV c (readVal r) := by
  rw [readVal] <;> intros <;> contradiction

theorem readVal_refs : ∀ p ∈ refs, ∀ r, readVal (p.2 ++ r) = consV p.1 (readVal r) := by
  simp [refs, readVal]

theorem foldr_consV (s a b : List Char) : s.foldr consV (some (a, b)) = some (s ++ a, b) := by
  induction s <;> simp [consV, *]

theorem readVal_escA (v rest : List Char) : readVal (escA v ++ '"' :: rest) = some (v, rest) := by
  rw [escA_eq, read_escBy readVal_refs fun c hc r => readVal_other r (hc '"' (by decide)) (hc '&' (by decide)),
    readVal, foldr_consV, List.append_nil]

theorem readText_other {c : Char} (r : List Char) (h1 : c ≠ '<') (h2 : c ≠ '&') :
    readText (c :: r) = consT c (readText r) := by
  rw [readText] <;> intros <;> contradiction

theorem readText_refs : ∀ p ∈ refs.take 3, ∀ r, readText (p.2 ++ r) = consT p.1 (readText r) := by
  simp [refs, readText]

theorem foldr_consT (s a b : List Char) : s.foldr consT (a, b) = (s ++ a, b) := by
  induction s <;> simp [consT, *]

theorem readText_escT (t rest : List Char) : readText (escT t ++ '<' :: rest) = (t, '<' :: rest) := by
  rw [escT_eq, read_escBy readText_refs fun c hc r => readText_other r (hc '<' (by decide)) (hc '&' (by decide)),
    readText, foldr_consT, List.append_nil]

theorem escT_indL (k : Nat) : escT (indL k) = indL k := by
  have : ∀ m, escT (List.replicate m ' ') = List.replicate m ' ' := by
    intro m
    induction m with
    | zero => rfl
    | succ m ih => rw [List.replicate_succ, escT, ih]; rfl
  rw [indL, escT, this]; rfl

theorem isBlankL_indL (k : Nat) : isBlankL (indL k) = true := by
  rw [isBlankL, indL, List.all_cons, List.all_replicate]
  split <;> decide

theorem dropWhile_blank (ws x : List Char) (h : isBlankL ws = true) :
    (ws ++ '<' :: x).dropWhile pyIsSpace = '<' :: x := by
  rw [List.dropWhile_append_of_pos (List.all_eq_true.1 h), List.dropWhile_cons_of_neg (by decide)]

theorem stripPrefix_append : ∀ (p rest : List Char), stripPrefix p (p ++ rest) = some rest
  | [], rest => rfl
  | c :: p, rest => by simp [stripPrefix, stripPrefix_append p rest]

theorem expectClose_ok (nm rest : List Char) (n : XNode) : expectClose nm (nm ++ '>' :: rest) n = some (n, rest) := by
  rw [expectClose, List.append_cons nm '>' rest, stripPrefix_append]

def TagEnd (tail : List Char) : Prop := (∃ r, tail = ' ' :: '/' :: r) ∨ (∃ r, tail = '>' :: r)

theorem goodName_cons {n : List Char} (h : goodName n = true) :
    ∃ c r, n = c :: r ∧ (c == '/') = false ∧ (n.all fun x => !nameStop x) = true := by
  cases n with
  | nil => simp [goodName] at h
  | cons c r =>
    simp only [goodName, List.isEmpty_cons, Bool.not_false, Bool.true_and] at h
    refine ⟨c, r, rfl, ?_, h⟩
    rw [beq_eq_false_iff_ne]; rintro rfl
    simp [nameStop] at h

theorem readAttrs_attrsL : ∀ (as : List (List Char × List Char)) (tail : List Char) (f : Nat),
    as.length < f → (as.all fun p => goodName p.1) = true → TagEnd tail →
    readAttrs f (attrsL as ++ tail) = some (as, tail)
  | [], tail, f + 1, _, _, ht => by rcases ht with ⟨r, rfl⟩ | ⟨r, rfl⟩ <;> simp [attrsL, readAttrs]
  | (k, v) :: as, tail, f + 1, hf, hg, ht => by
    simp only [List.all_cons, Bool.and_eq_true] at hg
    obtain ⟨k0, k', rfl, hc, hall⟩ := goodName_cons hg.1
    have hrn := readName_good (k0 :: k') '=' ('"' :: (escA v ++ '"' :: (attrsL as ++ tail))) hall (by decide)
    simp only [List.cons_append] at hrn
    simp only [attrsL, List.cons_append, List.append_assoc, readAttrs, hc, Bool.false_eq_true, if_false, hrn,
      readVal_escA, readAttrs_attrsL as tail f (by simpa using hf) hg.2 ht, Option.map_some]

theorem attrs_tail_head (as : List (List Char × List Char)) {T : List Char} (hT : TagEnd T) :
    ∃ c r, attrsL as ++ T = c :: r ∧ nameStop c = true := by
  cases as with
  | nil =>
    rcases hT with ⟨r, rfl⟩ | ⟨r, rfl⟩
    · exact ⟨' ', _, rfl, by decide⟩
    · exact ⟨'>', _, rfl, by decide⟩
  | cons p as => exact ⟨' ', _, rfl, by decide⟩

theorem length_le_attrsL (as : List (List Char × List Char)) : as.length ≤ (attrsL as).length := by
  induction as with
  | nil => exact Nat.le_refl _
  | cons p as ih =>
    simp only [attrsL, List.cons_append, List.length_cons, List.length_append]
    omega

section
variable {name : List Char} {attrs : List (List Char × List Char)} (hn : goodName name = true)
  (ha : (attrs.all fun p => goodName p.1) = true)
include hn ha

theorem read_open {T : List Char} (hT : TagEnd T) :
    readName (name ++ (attrsL attrs ++ T)) = (name, attrsL attrs ++ T) ∧
    readAttrs ((attrsL attrs ++ T).length + 1) (attrsL attrs ++ T) = some (attrs, T) := by
  obtain ⟨c, r, hcr, hc⟩ := attrs_tail_head attrs hT
  obtain ⟨_, _, _, _, hall⟩ := goodName_cons hn
  exact ⟨hcr ▸ readName_good name c r hall hc,
    readAttrs_attrsL attrs T _ (by have := length_le_attrsL attrs; rw [List.length_append]; omega) ha hT⟩

theorem parse_empty (f : Nat) (rest : List Char) :
    parseNode (f + 1) ('<' :: (name ++ (attrsL attrs ++ ' ' :: '/' :: '>' :: rest))) =
      some (⟨name, attrs, none, []⟩, rest) := by
  obtain ⟨h1, h2⟩ := read_open hn ha (.inl ⟨'>' :: rest, rfl⟩)
  simp only [parseNode, h1, h2]

theorem parse_leaf (t : List Char) (f : Nat) (rest : List Char) :
    parseNode (f + 1) ('<' :: (name ++ (attrsL attrs ++ '>' :: (escT t ++ '<' :: '/' :: (name ++ '>' :: rest))))) =
      some (⟨name, attrs, some t, []⟩, rest) := by
  obtain ⟨h1, h2⟩ := read_open hn ha (.inr ⟨escT t ++ '<' :: '/' :: (name ++ '>' :: rest), rfl⟩)
  simp only [parseNode, h1, h2, readText_escT, beq_self_eq_true, if_true, expectClose_ok]

theorem parse_with_kids {t Z : List Char} {cs : List XNode} {f : Nat} {rest : List Char} {c2 : Char}
    (hc2 : (c2 == '/') = false)
    (hkids : parseKids f ('<' :: c2 :: Z) = some (cs, '<' :: '/' :: (name ++ '>' :: rest))) :
    parseNode (f + 1) ('<' :: (name ++ (attrsL attrs ++ '>' :: (escT t ++ '<' :: c2 :: Z)))) =
      some (⟨name, attrs, if isBlankL t then none else some t, cs⟩, rest) := by
  obtain ⟨h1, h2⟩ := read_open hn ha (.inr ⟨escT t ++ '<' :: c2 :: Z, rfl⟩)
  simp only [parseNode, h1, h2, readText_escT, hc2, Bool.false_eq_true, if_false, hkids, expectClose_ok]

end

theorem renderKidsL_cons (base d : Nat) (c : XNode) (cs : List XNode) :
    renderKidsL base d (c :: cs) =
      renderL base (d + 1) c ++ (indL (if cs = [] then base + d else base + d + 1) ++ renderKidsL base d cs) := by
  cases cs <;> simp [renderKidsL]

theorem render_head (base d : Nat) (n : XNode) (h : WF n = true) (rest : List Char) :
    ∃ c r, renderL base d n ++ rest = '<' :: c :: r ∧ (c == '/') = false := by
  obtain ⟨name, attrs, text, children⟩ := n
  simp only [WF, Bool.and_eq_true] at h
  obtain ⟨c, r, rfl, hc, _⟩ := goodName_cons h.1.1
  -- every branch of `renderL` starts with `'<' :: name`
  unfold renderL
  repeat' split
  all_goals exact ⟨c, _, rfl, hc⟩

theorem renderKids_head (base d : Nat) (c : XNode) (cs : List XNode) (h : WF c = true) (rest : List Char) :
    ∃ c2 r, renderKidsL base d (c :: cs) ++ rest = '<' :: c2 :: r ∧ (c2 == '/') = false := by
  rw [renderKidsL_cons, List.append_assoc]
  exact render_head base (d + 1) c h _

mutual
theorem parseNode_render : (n : XNode) → (base d f : Nat) → (rest : List Char) → WF n = true → size n ≤ f →
    parseNode f (renderL base d n ++ rest) = some (canon n, rest)
  | ⟨_, _, _, _⟩, _, _, 0, _, _, hf => by simp [size] at hf
  | ⟨name, attrs, text, children⟩, base, d, f + 1, rest, hwf, hf => by
    simp only [WF, Bool.and_eq_true] at hwf
    obtain ⟨⟨hn, ha⟩, hcs⟩ := hwf
    cases children with
    | nil =>
      -- `None` and `''` are written and kept alike
      cases text with
      | none => simpa [renderL, canon] using parse_empty hn ha f rest
      | some t =>
        cases t with
        | nil => simpa [renderL, canon] using parse_empty hn ha f rest
        | cons x t => simpa [renderL, canon] using parse_leaf hn ha (x :: t) f rest
    | cons c cs =>
      have hwfc : WF c = true := by simp only [WFL, Bool.and_eq_true] at hcs; exact hcs.1
      obtain ⟨c2, Z, hZ, hc2⟩ := renderKids_head base d c cs hwfc ('<' :: '/' :: (name ++ '>' :: rest))
      have hkids := parseKids_render (c :: cs) base d f [] (name ++ '>' :: rest) hcs
        (by simp only [size] at hf; omega) rfl
      rw [List.nil_append, hZ] at hkids
      -- the character data in front of the first child is blank and forgotten, or kept
      cases text with
      | none =>
        simpa [renderL, canon, hZ, escT_indL, isBlankL_indL] using
          parse_with_kids hn ha (t := indL (base + d + 1)) hc2 hkids
      | some t =>
        by_cases hb : isBlankL t = true
        · simpa [renderL, canon, hZ, escT_indL, isBlankL_indL, hb] using
            parse_with_kids hn ha (t := indL (base + d + 1)) hc2 hkids
        · simpa [renderL, canon, hZ, hb] using parse_with_kids hn ha (t := t) hc2 hkids
theorem parseKids_render : (l : List XNode) → (base d f : Nat) → (ws rest : List Char) → WFL l = true → sizeL l ≤ f →
    isBlankL ws = true →
    parseKids f (ws ++ renderKidsL base d l ++ '<' :: '/' :: rest) = some (canonL l, '<' :: '/' :: rest)
  | [], _, _, 0, _, _, _, hf, _ => by simp [sizeL] at hf
  | _ :: _, _, _, 0, _, _, _, hf, _ => by simp [sizeL] at hf
  | [], base, d, f + 1, ws, rest, _, _, hws => by
    simp [renderKidsL, parseKids, dropWhile_blank ws _ hws, canonL]
  | c :: cs, base, d, f + 1, ws, rest, hwf, hf, hws => by
    simp only [WFL, Bool.and_eq_true] at hwf
    simp only [sizeL] at hf
    -- after the blanks: the first child, then (blank) indentation and the other children
    obtain ⟨k, hk⟩ : ∃ k, renderKidsL base d (c :: cs) = renderL base (d + 1) c ++ (indL k ++ renderKidsL base d cs) :=
      ⟨_, renderKidsL_cons base d c cs⟩
    obtain ⟨c2, Z, hZ, hc2⟩ := render_head base (d + 1) c hwf.1 (indL k ++ (renderKidsL base d cs ++ '<' :: '/' :: rest))
    have hnode := parseNode_render c base (d + 1) f (indL k ++ (renderKidsL base d cs ++ '<' :: '/' :: rest)) hwf.1
      (by omega)
    have hrest := parseKids_render cs base d f (indL k) rest hwf.2 (by omega) (isBlankL_indL k)
    rw [List.append_assoc] at hrest
    rw [hZ] at hnode
    rw [List.append_assoc, hk, List.append_assoc, List.append_assoc, hZ]
    simp [parseKids, dropWhile_blank ws _ hws, hc2, hnode, hrest, canonL]
end

end Serialize
