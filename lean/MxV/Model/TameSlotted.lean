import MxV.Model.MslotTheory
/-! # `Tame` templates as the special case of `Slotted` ones

A `Flat` particle is a `Slotted` particle without slots and a `RootChoice` is a single slot. On these
templates `Msimple` and `Mslot` are the same machine: same steps (error kinds included), same
ordered view, same verdict of the final check, same invariant. The theorems about `Msimple` in
`MxV/Props/` are read off from those about `Mslot` through the equations of this file. -/

namespace Mslot
open Msimple
open Particle (flat_seq flat_group flatL_cons)

mutual
theorem slotted_of_flat : (p : Particle) → p.flat = true → slotted p = true
  | .elem _ _ _, _ => rfl
  | .seq _ _ ps, h => by
    simp only [Particle.flat, Bool.and_eq_true] at h
    simp only [slotted, Bool.and_eq_true]
    exact ⟨h.1, slottedL_of_flatL ps h.2⟩
  | .choice _ _ _, h => nomatch h
  | .group _ _ _ p, h => by
    simp only [Particle.flat, Bool.and_eq_true] at h
    simp only [slotted, Bool.and_eq_true]
    exact ⟨h.1, slotted_of_flat p h.2⟩
theorem slottedL_of_flatL : (ps : List Particle) → Particle.flatL ps = true → slottedL ps = true
  | [], _ => rfl
  | p :: ps, h => by
    simp only [slottedL, Bool.and_eq_true]
    exact ⟨slotted_of_flat p (flatL_cons h).1, slottedL_of_flatL ps (flatL_cons h).2⟩
end

mutual
theorem ok_flat (w : List Nat) : (p : Particle) → p.flat = true → p.ok (cnt w) = okS w p
  | .elem _ _ _, _ => rfl
  | .seq _ _ ps, h => by simp only [Particle.ok, okS, okL_flat w ps (flat_seq h)]
  | .choice _ _ _, h => nomatch h
  | .group _ _ _ p, h => by simp only [Particle.ok, okS, ok_flat w p (flat_group h)]
theorem okL_flat (w : List Nat) : (ps : List Particle) → Particle.flatL ps = true →
    Particle.okL (cnt w) ps = okSL w ps
  | [], _ => rfl
  | p :: ps, h => by
    simp only [Particle.okL, okSL, ok_flat w p (flatL_cons h).1, okL_flat w ps (flatL_cons h).2]
end

mutual
theorem missing_flat (c : Nat → Nat) : (p : Particle) → p.flat = true → Mslot.missing c p = Msimple.missing c p
  | .elem _ _ _, _ => rfl
  | .seq _ _ ps, h => by simp only [Mslot.missing, Msimple.missing, missingL_flat c ps (flat_seq h)]
  | .choice _ _ _, h => nomatch h
  | .group _ _ _ p, h => by simp only [Mslot.missing, Msimple.missing, missing_flat c p (flat_group h)]
theorem missingL_flat (c : Nat → Nat) : (ps : List Particle) → Particle.flatL ps = true →
    Mslot.missingL c ps = Msimple.missingL c ps
  | [], _ => rfl
  | p :: ps, h => by
    simp only [Mslot.missingL, Msimple.missingL, missing_flat c p (flatL_cons h).1, missingL_flat c ps (flatL_cons h).2]
end

mutual
theorem blocks_flat : (p : Particle) → p.flat = true →
    blocks p = p.specs.map fun s => ⟨[s.1], s.2.1, s.2.2, false⟩
  | .elem _ _ _, _ => rfl
  | .seq _ _ ps, h => by simp only [blocks, Particle.specs, blocksL_flat ps (flat_seq h)]
  | .choice _ _ _, h => nomatch h
  | .group _ _ _ p, h => by simp only [blocks, Particle.specs, blocks_flat p (flat_group h)]
theorem blocksL_flat : (ps : List Particle) → Particle.flatL ps = true →
    blocksL ps = (Particle.specsL ps).map fun s => ⟨[s.1], s.2.1, s.2.2, false⟩
  | [], _ => rfl
  | p :: ps, h => by
    simp only [blocksL, Particle.specsL, List.map_append, blocks_flat p (flatL_cons h).1,
      blocksL_flat ps (flatL_cons h).2]
end

theorem render_flat (w : List Nat) (p : Particle) (h : p.flat = true) : p.render (cnt w) = renderS w p := by
  rw [render_flatMap _ p h, renderS_blocks, blocks_flat p h, ← Particle.specs_names, List.flatMap_map, List.flatMap_map]
  simp only [restr_single]
theorem renderL_flat (w : List Nat) (ps : List Particle) (h : Particle.flatL ps = true) :
    Particle.renderL (cnt w) ps = renderSL w ps :=
  render_flat w (.seq 1 (some 1) ps) (by simp [Particle.flat, h])

theorem maxOK_flat (w : List Nat) (p : Particle) (hf : p.flat = true) :
    maxOK w p = true ↔ ∀ s ∈ p.specs, leMax (cnt w s.1) s.2.2 = true := by
  simp only [maxOK_blocks, blocks_flat p hf, List.all_map, List.all_eq_true, Function.comp, fits,
    length_restr_single]

theorem find_block_flat {p : Particle} (hf : p.flat = true) (n : Nat) :
    (blocks p).find? (fun b => b.names.contains n) =
      (p.specs.find? (·.1 == n)).map fun s => ⟨[s.1], s.2.1, s.2.2, false⟩ := by
  rw [blocks_flat p hf, List.find?_map]
  congr 2
  funext s
  simp only [Function.comp, List.contains_cons, List.contains_nil, Bool.or_false]
  exact BEq.comm

-- both machines look a name up in leaf order and take the first leaf that bears it
mutual
theorem place_flat (w : List Nat) (n : Nat) : (p : Particle) → p.flat = true →
    place w n p = match p.specs.find? (·.1 == n) with
      | none => .absent
      | some s => if leMax (cnt w n + 1) s.2.2 then .ok else .maxOccurs
  | .elem m _ _, _ => by
    simp only [place, Particle.specs, List.find?_cons, List.find?_nil]
    cases m == n <;> rfl
  | .seq _ _ ps, h => by simp only [place, Particle.specs, placeL_flat w n ps (flat_seq h)]
  | .choice _ _ _, h => nomatch h
  | .group _ _ _ p, h => by simp only [place, Particle.specs, place_flat w n p (flat_group h)]
theorem placeL_flat (w : List Nat) (n : Nat) : (ps : List Particle) → Particle.flatL ps = true →
    placeL w n ps = match (Particle.specsL ps).find? (·.1 == n) with
      | none => .absent
      | some s => if leMax (cnt w n + 1) s.2.2 then .ok else .maxOccurs
  | [], _ => rfl
  | p :: ps, h => by
    simp only [placeL, Particle.specsL, List.find?_append, place_flat w n p (flatL_cons h).1,
      placeL_flat w n ps (flatL_cons h).2]
    cases p.specs.find? (·.1 == n) with
    | none => rfl
    | some s =>
      simp only [Option.some_or]
      cases leMax (cnt w n + 1) s.2.2 <;> rfl
end

end Mslot

/-- on Flat particles, Lang ⇔ per-leaf counts OK ∧ word is the leaf-ordered rendering -/
theorem Particle.flat_iff : (p : Particle) → p.flat = true → p.leaves.Nodup → (w : List Nat) →
    (p.Lang w ↔ p.ok (cnt w) = true ∧ w = p.render (cnt w)) :=
  fun p hf hnd w => by
    rw [Mslot.ok_flat w p hf, Mslot.render_flat w p hf]
    exact Mslot.slotted_iff p (Mslot.slotted_of_flat p hf) hnd w
theorem Particle.flatL_iff : (ps : List Particle) → Particle.flatL ps = true → (Particle.leavesL ps).Nodup → (w : List Nat) →
    (Particle.LangSeq ps w ↔ Particle.okL (cnt w) ps = true ∧ w = Particle.renderL (cnt w) ps) :=
  fun ps hf hnd w => by
    rw [Mslot.okL_flat w ps hf, Mslot.renderL_flat w ps hf]
    exact Mslot.slottedL_iff ps (Mslot.slottedL_of_flatL ps hf) hnd w

/-! The two machines agree on a Flat template for every list of children; on a choice as soon as every
child present bears one of its names, which every successful step preserves (first half of `InvS`). -/
namespace Tame
open Msimple Mslot

theorem flat_or_slot {p : Particle} (ht : isTame p = true) :
    isFlat p = true ∨ ∃ mi ma ps, p = .choice mi ma ps ∧ isSlot p = true ∧ p.leaves.Nodup := by
  simp only [isTame, Bool.or_eq_true, Bool.and_eq_true, nodupNat_iff] at ht
  refine ht.imp_right fun h => ?_
  cases p with
  -- on a choice `isRootChoice` and `isSlot` are the same test
  | choice mi ma ps => exact ⟨mi, ma, ps, rfl, h⟩
  | _ => cases h.1

theorem isSlotted_of_isTame {p : Particle} (ht : isTame p = true) : isSlotted p = true := by
  rw [isSlotted_iff]
  rcases flat_or_slot ht with hf | ⟨mi, ma, ps, rfl, hs, hnd⟩
  · exact ⟨slotted_of_flat p (isFlat_iff.1 hf).1, (isFlat_iff.1 hf).2⟩
  · exact ⟨hs, hnd⟩

theorem add_flat {p : Particle} (hf : isFlat p = true) (k : Kids) (c n : Nat) (f : Option Int) :
    Msimple.add p k c n f = Mslot.add p k c n f := by
  have hfl := (isFlat_iff.1 hf).1
  simp only [Msimple.add, hf, if_true, maxOf, Mslot.add, fwdCheck, addPlain, find_block_flat hfl, place_flat _ n p hfl,
    count_eq_cnt]
  -- both sides are decided by the leaf that bears the name, whether it is full, and the forward index
  cases p.specs.find? (·.1 == n) with
  | none => cases f <;> rfl
  | some s =>
    cases h : leMax (cnt (names k) n + 1) s.2.2 <;> cases f with
    | none => simp [h, fwdOk]
    | some i => cases hw : fwdOk (some i) <;> simp [h, hw]

theorem add_choice {mi : Nat} {ma : Option Nat} {ps : List Particle} {k : Kids}
    (hk : ∀ c ∈ k, c.2 ∈ Particle.leavesL ps) (c n : Nat) (f : Option Int) :
    Msimple.add (.choice mi ma ps) k c n f = Mslot.add (.choice mi ma ps) k c n f := by
  have hin : inBlock ⟨Particle.leavesL ps, mi, ma, true⟩ k = k := inBlock_eq_self hk
  simp only [Msimple.add, flat_not_choice, Bool.false_eq_true, if_false, Particle.leaves, Mslot.add, fwdCheck, blocks,
    List.find?_cons, List.find?_nil, addPlain, place, restr_eq_self (forall_names.2 hk)]
  -- both sides are decided by whether the name is known, whether a child is present, the forward index and `max`
  rcases Bool.eq_false_or_eq_true ((Particle.leavesL ps).contains n) with hn | hn
  · simp only [hn, Bool.not_true, Bool.false_eq_true, if_false, if_true]
    rcases k with _ | ⟨⟨a, m⟩, r⟩
    · cases f with
      | none => cases ma <;> rfl
      | some i => cases ma <;> cases hw : fwdOk (some i) <;> simp [hw, inBlock, names]
    · cases f with
      | none => cases ma <;> simp [fwdOk, names]; split <;> rfl
      | some i => simp [hin]
  · simp only [hn]
    cases f <;> rfl

variable {p : Particle} {k : Kids}

theorem add_eq (ht : isTame p = true) (hk : ∀ c ∈ k, c.2 ∈ p.leaves) (c n : Nat) (f : Option Int) :
    Msimple.add p k c n f = Mslot.add p k c n f := by
  rcases flat_or_slot ht with hf | ⟨mi, ma, ps, rfl, -, -⟩
  · exact add_flat hf k c n f
  · exact add_choice hk c n f

theorem step_eq (ht : isTame p = true) (hk : ∀ c ∈ k, c.2 ∈ p.leaves) (op : Op) : step p k op = stepS p k op := by
  cases op with
  | add c n f => exact add_eq ht hk c n f
  | rm c => rfl
  | repl o nw n => rfl

theorem ordered_eq (ht : isTame p = true) (hk : ∀ c ∈ k, c.2 ∈ p.leaves) :
    Msimple.ordered p k = Mslot.ordered p k := by
  rcases flat_or_slot ht with hf | ⟨mi, ma, ps, rfl, -, -⟩
  · simp only [ordered_flat hf, Mslot.ordered, blocks_flat p (isFlat_iff.1 hf).1, ← Particle.specs_names,
      List.flatMap_map, inBlock, List.contains_cons, List.contains_nil, Bool.or_false]
  · simp only [ordered_choice, Mslot.ordered, blocks, List.flatMap_cons, List.flatMap_nil, List.append_nil]
    exact (inBlock_eq_self hk).symm

theorem required_eq (ht : isTame p = true) (hk : ∀ c ∈ k, c.2 ∈ p.leaves) :
    Msimple.required p k = Mslot.required p k := by
  rcases flat_or_slot ht with hf | ⟨mi, ma, ps, rfl, -, -⟩
  · rw [required_flat hf, Mslot.required, missing_flat _ p (isFlat_iff.1 hf).1]
  · have he : Particle.empL (cnt (names k)) ps = k.isEmpty := by
      rw [Bool.eq_iff_iff, empL_iff_restr_nil, restr_eq_self (S := Particle.leavesL ps) (forall_names.2 hk)]
      simp [names]
    simp only [required_choice, Mslot.required, Mslot.missing, he, Particle.leavesL_eq_flatten]

theorem inv_iff (ht : isTame p = true) : Inv p k ↔ InvS p k := by
  refine and_congr_right fun hk => ?_
  rcases flat_or_slot ht with hf | ⟨mi, ma, ps, rfl, hs, -⟩
  · have hfl := (isFlat_iff.1 hf).1
    rw [maxOK_flat _ p hfl]
    exact ⟨fun h => h.1 hf, fun h => ⟨fun _ => h, fun mi ps e => by subst e; cases hfl⟩⟩
  · have hlen : (names k).length = k.length := List.length_map _
    simp only [flat_not_choice, Bool.false_eq_true, false_imp_iff, true_and, maxOK,
      restr_eq_self (S := Particle.leavesL ps) (forall_names.2 hk), hlen]
    rcases (slot_shape hs).2.2.1 with rfl | rfl <;> simp [leMax]

theorem apply_eq (ht : isTame p = true) (hk : ∀ c ∈ k, c.2 ∈ p.leaves) (op : Op) :
    Msimple.apply p k op = applyS p k op := by
  unfold Msimple.apply applyS
  rw [step_eq ht hk]
  cases stepS p k op <;> rfl

theorem run_eq (ht : isTame p = true) (ops : List Op) : run p ops = runS p ops := by
  have : ∀ k, InvS p k → ops.foldl (Msimple.apply p) k = ops.foldl (applyS p) k := by
    induction ops with
    | nil => intro _ _; rfl
    | cons op r ih =>
      intro k hi
      rw [List.foldl_cons, List.foldl_cons, apply_eq ht hi.1]
      exact ih _ (invS_apply (isSlotted_of_isTame ht) op hi)
  exact this [] (invS_nil p)

theorem runE_eq (ht : isTame p = true) (hi : InvS p k) (ops : List Op) : runE p k ops = runES p k ops := by
  induction ops generalizing k with
  | nil => rfl
  | cons op r ih =>
    simp only [runE, runES, step_eq ht hi.1]
    cases h : stepS p k op with
    | ok k' => exact ih (invS_step (isSlotted_of_isTame ht) hi h)
    | error e => rfl

theorem of_runES (ht : isTame p = true) (hi : InvS p k) {ops : List Op} {k' : Kids} (h : runES p k ops = .ok k') :
    runE p k ops = .ok k' ∧ Msimple.required p k' = Mslot.required p k' ∧
    Msimple.ordered p k' = Mslot.ordered p k' :=
  have hk := (invS_runES (isSlotted_of_isTame ht) hi h).1
  ⟨(runE_eq ht hi ops).trans h, required_eq ht hk, ordered_eq ht hk⟩

theorem inv_run (ht : isTame p = true) (ops : List Op) : Inv p (run p ops) := by
  rw [inv_iff ht, run_eq ht]
  exact invS_run p (isSlotted_of_isTame ht) ops

end Tame
