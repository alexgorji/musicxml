/-! # Shapes — effect order of `write()` (C17) and the lazily filled class-level tables (C20).
The programs are extracted from the AST of the current source (extract/shapes.py → Gen/Shapes.lean);
the theorems are generic in the program and are instantiated on the extracted ones. -/
namespace Shapes

/-! ## write(): a byte-file store with a failing pure step -/
inductive Eff
  | compute                                   -- content = self.to_string(...)   (may raise)
  | openTrunc (binary : Bool) (enc : Option String)   -- open(path, 'w', ...)  : truncates
  | writeLit (s : String)
  | writeContent                              -- file.write(content)
  | writeCompute                              -- file.write(self.to_string(...)) : computed after opening
  | close
  | unknown
  deriving DecidableEq, Repr

/-- the file: `none` = does not exist -/
abbrev File := Option String

structure IOSt where
  file : File
  content : Option String := none      -- the local variable holding to_string()'s result
  failed : Bool := false               -- an exception has propagated: nothing after it runs

/-- `res = none`: to_string() raises (validation or serialisation fails) -/
def stepIO (res : Option String) (s : IOSt) : Eff → IOSt
  | .compute => if s.failed then s else match res with
    | some t => { s with content := some t }
    | none => { s with failed := true }
  | .openTrunc _ _ => if s.failed then s else { s with file := some "" }
  | .writeLit l => if s.failed then s else { s with file := s.file.map (· ++ l) }
  | .writeContent => if s.failed then s else match s.content with
    | some t => { s with file := s.file.map (· ++ t) }
    | none => { s with failed := true }
  | .writeCompute => if s.failed then s else match res with
    | some t => { s with file := s.file.map (· ++ t) }
    | none => { s with failed := true }
  | .close => s
  | .unknown => { s with failed := true, file := none }   -- anything may have happened

def runIO (prog : List Eff) (res : Option String) (f : File) : IOSt :=
  prog.foldl (stepIO res) { file := f }

/-- the document text is computed first — before any effect on the file — and never again, and
    nothing unrecognised occurs -/
def validateFirst : List Eff → Bool
  | .compute :: r => r.all fun e => e != .compute && e != .writeCompute && e != .unknown
  | _ => false

theorem stepIO_failed {res : Option String} {s : IOSt} (h : s.failed = true) {e : Eff} (he : e ≠ .unknown) :
    stepIO res s e = s := by
  cases e <;> simp [stepIO, h] at he ⊢

theorem failed_stays (res : Option String) (prog : List Eff) (s : IOSt) (h : s.failed = true)
    (hu : ∀ e ∈ prog, e ≠ .unknown) : prog.foldl (stepIO res) s = s := by
  induction prog with
  | nil => rfl
  | cons e r ih =>
    rw [List.foldl_cons, stepIO_failed h (hu e List.mem_cons_self), ih fun e he => hu e (List.mem_cons_of_mem _ he)]

/-- C17, first half: if the document text cannot be produced (validation or serialisation raises),
    the destination is left exactly as it was — whatever it was, existing or not -/
theorem atomic_if_validate_first (prog : List Eff) (hv : validateFirst prog = true) (f : File) :
    (runIO prog none f).file = f := by
  match prog, hv with
  | .compute :: r, hv =>
    -- the first step fails; nothing after it is `unknown`
    simp only [validateFirst, List.all_eq_true, Bool.and_eq_true, bne_iff_ne] at hv
    rw [runIO, List.foldl_cons, failed_stays none r _ rfl fun e he => (hv e he).2]
    rfl

/-- the shape the library's write() is expected to have -/
def writeShape (decl : String) : List Eff :=
  [.compute, .openTrunc false (some "utf-8"), .writeLit decl, .writeContent, .close]

/-- C17, second half: on success the file holds the declaration followed by exactly to_string() -/
theorem content_on_success (decl s : String) (f : File) :
    (runIO (writeShape decl) (some s) f).file = some ("" ++ decl ++ s) ∧
    (runIO (writeShape decl) (some s) f).failed = false := by
  simp [runIO, writeShape, stepIO]

/-! ## open() sites: independence of the process locale -/
structure OpenSite where
  file : String
  line : Nat
  binary : Bool
  encoding : Option String
  deriving Repr

/-- bytes ↔ text conversion depends on the locale only through an open() in text mode without an
    explicit encoding -/
def localeFree (o : OpenSite) : Bool := o.binary || o.encoding == some "utf-8"

/-- abstract decoding: the locale is consulted exactly when the site is not `localeFree` -/
def decodeWith (o : OpenSite) (localeEnc : String) : String :=
  if o.binary then "bytes" else (o.encoding.getD localeEnc)

theorem locale_independent (sites : List OpenSite) (h : sites.all localeFree = true) (l l' : String) :
    sites.map (decodeWith · l) = sites.map (decodeWith · l') := by
  apply List.map_congr_left
  intro o ho
  have := List.all_eq_true.1 h o ho
  simp only [localeFree, Bool.or_eq_true, beq_iff_eq] at this
  rcases this with h | h <;> simp [decodeWith, h]

/-! ## lazily filled shared tables: any number of threads, any schedule -/
inductive LStmt
  | ifNone | endIf | newLocal | publishEmpty | appendShared | appendLocal | publishLocal | retShared | unknown
  deriving DecidableEq, Repr

/-- the shape "fill a local list, publish it with one assignment":
    ifNone; newLocal; appendLocal*; publishLocal; endIf; retShared -/
def publishAfterFill : List LStmt → Bool
  | .ifNone :: .newLocal :: r =>
    let body := r.takeWhile (· == .appendLocal)
    let rest := r.dropWhile (· == .appendLocal)
    let _ := body
    rest == [.publishLocal, .endIf, .retShared]
  | _ => false

/-- number of items the complete table has -/
def nItems (p : List LStmt) : Nat := (p.filter (· == .appendLocal)).length

/-- one thread executing the publish-after-fill program (statement-granular steps) -/
inductive Th
  | start                      -- before `if cls._TABLE is None`
  | filling (k : Nat)          -- inside the if-body, k items in the local list so far
  | after                      -- past the if, about to `return cls._TABLE`
  | done (r : Option Nat)      -- returned: none = None, some k = a list with k items
  deriving DecidableEq, Repr

/-- shared cell: none = None, some k = a list with k items -/
structure Sys where
  cell : Option Nat := none
  threads : List Th

/-- one step of a thread for a table of `n` items; returns the new cell and thread state -/
def stepTh (n : Nat) (cell : Option Nat) : Th → Option Nat × Th
  | .start => if cell.isNone then (cell, .filling 0) else (cell, .after)
  | .filling k => if k < n then (cell, .filling (k + 1)) else (some k, .after)
  | .after => (cell, .done cell)
  | .done r => (cell, .done r)

def stepSys (n : Nat) (s : Sys) (i : Nat) : Sys :=
  match s.threads[i]? with
  | none => s
  | some t => { cell := (stepTh n s.cell t).1, threads := s.threads.set i (stepTh n s.cell t).2 }

/-- any schedule: a list of thread indices, one step each -/
def runSched (n : Nat) (s : Sys) (sched : List Nat) : Sys := sched.foldl (stepSys n) s

theorem stepSys_get (n : Nat) (s : Sys) (j i : Nat) :
    (stepSys n s j).threads[i]? =
      if j = i then s.threads[i]?.map fun t => (stepTh n s.cell t).2 else s.threads[i]? := by
  unfold stepSys
  by_cases h : j = i
  · subst h
    cases ht : s.threads[j]? <;> simp [ht, List.getElem?_set_self']
  · cases s.threads[j]? <;> simp [h, List.getElem?_set_ne h]

def ThInv (n : Nat) (cell : Option Nat) : Th → Prop
  | .start => True
  | .filling k => k ≤ n
  | .after => cell = some n
  | .done r => r = some n

def SysInv (n : Nat) (s : Sys) : Prop :=
  (s.cell = none ∨ s.cell = some n) ∧ ∀ t ∈ s.threads, ThInv n s.cell t

/-- only a thread past the `if` looks at the cell, and it needs it full -/
theorem thInv_mono {n : Nat} {t : Th} {c c' : Option Nat} (h : ThInv n c t) (hc : c = some n → c' = some n) :
    ThInv n c' t := by
  cases t <;> simp_all [ThInv]

theorem stepTh_inv (n : Nat) (cell : Option Nat) (t : Th) (hc : cell = none ∨ cell = some n)
    (ht : ThInv n cell t) :
    ((stepTh n cell t).1 = none ∨ (stepTh n cell t).1 = some n) ∧ ThInv n (stepTh n cell t).1 (stepTh n cell t).2 ∧
    (cell = some n → (stepTh n cell t).1 = some n) := by
  cases t with
  | start => rcases hc with rfl | rfl <;> simp [stepTh, ThInv]
  | filling k =>
    -- the cell is written when the local list is complete
    simp only [ThInv] at ht
    by_cases hk : k < n
    · simp [stepTh, hk, ThInv, hc]; omega
    · simp [stepTh, ThInv, show k = n by omega]
  | after => exact ⟨hc, ht, id⟩
  | done r => exact ⟨hc, ht, id⟩

theorem stepSys_inv (n : Nat) (s : Sys) (i : Nat) (h : SysInv n s) : SysInv n (stepSys n s i) := by
  unfold stepSys
  split
  · exact h
  · rename_i t hti
    obtain ⟨h1, h2, h3⟩ := stepTh_inv n s.cell t h.1 (h.2 t (List.mem_of_getElem? hti))
    refine ⟨h1, fun u hu => ?_⟩
    rcases List.mem_or_eq_of_mem_set hu with hu' | rfl
    · exact thInv_mono (h.2 u hu') h3
    · exact h2

theorem runSched_inv (n : Nat) (sched : List Nat) (s : Sys) (h : SysInv n s) : SysInv n (runSched n s sched) := by
  induction sched generalizing s with
  | nil => exact h
  | cons i r ih => exact ih _ (stepSys_inv n s i h)

theorem sysInv_init (n m : Nat) : SysInv n { cell := none, threads := List.replicate m .start } :=
  ⟨.inl rfl, fun t ht => by rw [List.eq_of_mem_replicate ht]; trivial⟩

/-- C20 core: with the publish-after-fill shape, whatever the number of threads and whatever the
    schedule, every thread that has returned got the complete table -/
theorem publish_after_fill_safe (n m : Nat) (sched : List Nat) :
    ∀ t ∈ (runSched n { cell := none, threads := List.replicate m .start } sched).threads,
      ∀ r, t = .done r → r = some n := by
  intro t ht r hr
  subst hr
  exact (runSched_inv n sched _ (sysInv_init n m)).2 _ ht

/-- and a concrete schedule in which two threads interleave inside the body and both finish -/
example : (runSched 2 { cell := none, threads := [.start, .start] } [0, 1, 0, 1, 0, 0, 1, 1, 0, 1]).threads =
    [.done (some 2), .done (some 2)] := by decide

/-- contrast (the pre-repair shape "publish an empty list, then append to it"): a second thread
    can return a partial table.  Model of that shape: -/
def stepThBad (n : Nat) (cell : Option Nat) : Th → Option Nat × Th
  | .start => if cell.isNone then (some 0, .filling 0) else (cell, .after)
  | .filling k => if k < n then (some (k + 1), .filling (k + 1)) else (cell, .after)
  | .after => (cell, .done cell)
  | .done r => (cell, .done r)
def stepSysBad (n : Nat) (s : Sys) (i : Nat) : Sys :=
  match s.threads[i]? with
  | none => s
  | some t => let r := stepThBad n s.cell t; { cell := r.1, threads := s.threads.set i r.2 }
theorem publish_then_fill_unsafe :
    ∃ sched, ([0, 1, 1].foldl (stepSysBad 2) { cell := none, threads := [.start, .start] }).threads[1]? = some (.done (some 0))
      ∧ sched = [0, 1, 1] := ⟨[0, 1, 1], by decide, rfl⟩

end Shapes
