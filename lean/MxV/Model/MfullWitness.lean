import MxV.Model.Mfull
import MxV.Core.MaxCount
/-! # Negative witnesses on the full matcher model

`Mfull` is total (fuel-carrying structural recursion), so the kernel can run it. For the content
models outside the proven class the properties C01, C02, C06, C10, C11, C12 are *false* for some
histories — of the code and of this model alike (the correspondence run shows they agree). This
file states, as decidable predicates over a history, what "the property fails here" means; the
generated table `Gen/Witnesses.lean` lists one history per open finding, and
`Tables/D_witnesses.lean` has the kernel confirm every one of them (`decide +kernel`). The same
histories are replayed on the real library by the checks (`KNOWN-FINDING`). `wC07` (no table of its own:
the open C07 findings are of another kind, see `Props/C07x.lean`) comes with `wC07_sound`. -/
namespace Mfull

inductive Op
  | add (cid name : Nat) (fwd : Option Int)
  | rm (cid : Nat)
  | repl (old new name : Nat)
  deriving Repr, DecidableEq

structure Obs where
  ordered : Option (List Nat)
  unordered : List Nat
  required : Option (List Nat)
  deriving DecidableEq, Repr

/-- `get_children()`, `get_children(ordered=False)`, `get_required_element_names(False)`, in the order the
    harness observes them (the calls rewrite caches and flags, so the order is part of the history) -/
def observe (a : Arena) : Obs × Arena :=
  match run a orderedChildren with
  | (.error _, a1) => (⟨none, a1.unordered, none⟩, a1)
  | (.ok ord, a1) =>
    match run a1 (getRequiredElementNames false) with
    | (.ok l, a2) => (⟨some ord, a2.unordered, some l⟩, a2)
    | (.error _, a2) => (⟨some ord, a2.unordered, none⟩, a2)

def stepOp (a : Arena) : Op → Bool × Arena
  | .add c n f => match run a (elAddChild c n f) with
    | (.ok _, a') => (true, a')
    | (.error _, a') => (false, a')
  | .rm c => match run a (elRemove c) with
    | (.ok _, a') => (true, a')
    | (.error _, a') => (false, a')
  | .repl o n nm => match run a (elReplace o n nm) with
    | (.ok _, a') => (true, a')
    | (.error _, a') => (false, a')

/-- run a history on a fresh element, observing after every operation -/
def runObs (p : Particle) (ops : List Op) : List Bool × List Obs × Arena :=
  ops.foldl (fun (acc : List Bool × List Obs × Arena) op =>
    let (ok, a1) := stepOp acc.2.2 op
    let (ob, a2) := observe a1
    (acc.1 ++ [ok], acc.2.1 ++ [ob], a2)) ([], [], newInstance p)

def nameOf (a : Arena) (c : Nat) : Nat := (kget a.kids c).name

def countOf (x : Nat) (l : List Nat) : Nat := (l.filter (· == x)).length
def isPermB (a b : List Nat) : Bool := a.length == b.length && a.all fun x => countOf x a == countOf x b

/-- C06 fails: at some point the schema-ordered view is not a permutation of the insertion-ordered view -/
def wC06 (p : Particle) (ops : List Op) : Bool :=
  (runObs p ops).2.1.any fun ob => match ob.ordered with
    | some o => !isPermB o ob.unordered
    | none => false

/-- C01 fails: the final check passes (nothing required) while the serialised child names are not a word of the schema's content model -/
def wC01 (spec p : Particle) (ops : List Op) : Bool :=
  let r := runObs p ops
  r.2.1.any fun ob => match ob.ordered, ob.required with
    | some o, some [] => !(spec.accepts (o.map (nameOf r.2.2)))
    | _, _ => false

def addsOf (w : List Nat) : List Op := (w.zipIdx).map fun (n, i) => .add (i + 1) n none

/-- C02 fails: a word of the schema's content model, supplied in order to a fresh element, is refused,
    or leaves something "required", or comes back in another order -/
def wC02 (spec p : Particle) (w : List Nat) : Bool :=
  let r := runObs p (addsOf w)
  spec.accepts w &&
    (r.1.any (· == false) ||
     (match r.2.1.getLast? with
      | some ob => ob.required != some [] || ob.ordered.map (·.map (nameOf r.2.2)) != some w
      | none => false))

/-- C10 fails: the history with its refused calls and the history without them end in different observable states -/
def wC10 (p : Particle) (ops : List Op) : Bool :=
  let r := runObs p ops
  let clean := (ops.zip r.1).filterMap fun (op, ok) => if ok then some op else none
  let r2 := runObs p clean
  r.1.any (· == false) && r2.1.all (· == true) &&
    (r.2.1.getLast? != r2.2.1.getLast?)

/-- C11 fails: after removals the element differs (ordered child names or the "required" verdict) from a fresh
    element to which only the surviving children were added, in the same order -/
def wC11 (p : Particle) (ops : List Op) : Bool :=
  let r := runObs p ops
  let live := r.2.2.unordered
  let surv := ops.filter fun op => match op with
    | .add c _ _ => live.contains c
    | _ => false
  let r2 := runObs p surv
  let view := fun (x : List Bool × List Obs × Arena) => x.2.1.getLast?.map fun ob => (ob.ordered.map (·.map (nameOf x.2.2)), ob.required)
  ops.any (fun op => match op with | .rm _ => true | _ => false) &&
    ops.all (fun op => match op with | .repl _ _ _ => false | _ => true) &&
    r2.1.all (· == true) && view r != view r2

def insertAll (x : Nat) : List Nat → List (List Nat)
  | [] => [[x]]
  | y :: r => (x :: y :: r) :: (insertAll x r).map (y :: ·)
def perms : List Nat → List (List Nat)
  | [] => [[]]
  | x :: r => (perms r).flatMap (insertAll x)

/-- C12 fails: the children have exactly one schema-valid arrangement, yet adding them in this order is refused,
    or leaves something "required", or is serialised in another arrangement -/
def wC12 (spec p : Particle) (w : List Nat) : Bool :=
  let r := runObs p (addsOf w)
  match ((perms w).filter spec.accepts).eraseDups with
  | [arr] =>
    r.1.any (· == false) ||
      (match r.2.1.getLast? with
       | some ob => ob.required != some [] || ob.ordered.map (·.map (nameOf r.2.2)) != some arr
       | none => false)
  | _ => false

/-- C07 fails: every child of the history is accepted, yet some name now occurs more often than in any word of the
    schema's content model (`Particle.maxCount`), so no completion to a schema-valid element exists -/
def wC07 (spec p : Particle) (ops : List Op) : Bool :=
  let r := runObs p ops
  let names := ops.filterMap fun op => match op with
    | .add _ n _ => some n
    | _ => none
  ops.all (fun op => match op with | .add _ _ _ => true | _ => false) && r.1.all (· == true) &&
    names.any fun n => match spec.maxCount n with
      | some b => decide (b < occ_ n names)
      | none => false

/-- what a `true` answer of `wC07` means for the schema: whatever is added, the children never become a word of the content model -/
theorem wC07_sound {spec p : Particle} {ops : List Op} (h : wC07 spec p ops = true) :
    ∀ w : List Nat, (∀ x, occ_ x (ops.filterMap fun op => match op with | .add _ n _ => some n | _ => none) ≤ occ_ x w) →
      ¬ spec.Lang w := by
  simp only [wC07, Bool.and_eq_true, List.any_eq_true] at h
  obtain ⟨_, n, _, hn⟩ := h
  cases hb : spec.maxCount n with
  | none => simp [hb] at hn
  | some b =>
    simp only [hb, decide_eq_true_eq] at hn
    exact Particle.not_completable hb hn

end Mfull
