import MxV.Model.Msimple
/-! Lemmas about `Msimple`, and what its theorems are stated with: the invariant `Inv`, the ledger of a
successful operation, strict runs `runE`, add-only histories (`addOps`, `zipIds`, `addOpsK`), the
completion `need`; and what the model's functions compute on Flat particles, in terms of counts: `render`
(`render_flatMap`, `cnt_renderL`), the verdict `missing` against `Particle.ok` (`ok_of_missing_nil`,
`missing_nil_of_ok`), `need` (`need_sublist`, `needL_count_le`). That `Msimple` is `Mslot` on Tame
templates, and with it the invariant of its reachable states, is in `Model/TameSlotted.lean`; the
property theorems are in `MxV/Props/`. -/

namespace Msimple
open Particle (flat_seq flat_group flatL_cons)

theorem nodupNat_iff {l : List Nat} : nodupNat l = true ↔ l.Nodup := by
  induction l with
  | nil => simp [nodupNat]
  | cons a r ih => simp [nodupNat, ih]

theorem isFlat_iff {p : Particle} : isFlat p = true ↔ p.flat = true ∧ p.leaves.Nodup := by
  simp [isFlat, nodupNat_iff]

theorem names_append (a b : Kids) : names (a ++ b) = names a ++ names b := by simp [names]

theorem forall_names {S : List Nat} {k : Kids} : (∀ x ∈ names k, x ∈ S) ↔ ∀ c ∈ k, c.2 ∈ S :=
  List.forall_mem_map

theorem count_eq_cnt (k : Kids) (n : Nat) : count k n = cnt (names k) n := rfl

mutual
theorem render_flatMap (c : Nat → Nat) : (p : Particle) → p.flat = true →
    p.render c = p.leaves.flatMap (fun n => List.replicate (c n) n)
  | .elem n _ _, _ => by simp [Particle.render, Particle.leaves]
  | .seq _ _ ps, h => renderL_flatMap c ps (flat_seq h)
  | .choice _ _ _, h => nomatch h
  | .group _ _ _ p, h => render_flatMap c p (flat_group h)
theorem renderL_flatMap (c : Nat → Nat) : (ps : List Particle) → Particle.flatL ps = true →
    Particle.renderL c ps = (Particle.leavesL ps).flatMap (fun n => List.replicate (c n) n)
  | [], _ => by simp [Particle.renderL, Particle.leavesL]
  | p :: ps, h => by
    simp [Particle.renderL, Particle.leavesL, render_flatMap c p (flatL_cons h).1,
      renderL_flatMap c ps (flatL_cons h).2]
end

theorem count_flatMap_replicate {α : Type} (f g : α → Nat) {L : List α} (hnd : (L.map f).Nodup) {a : α}
    (ha : a ∈ L) : (L.flatMap fun b => List.replicate (g b) (f b)).count (f a) = g a := by
  induction L with
  | nil => cases ha
  | cons b L ih =>
    rw [List.map_cons, List.nodup_cons] at hnd
    rw [List.flatMap_cons, List.count_append, List.count_replicate]
    rcases List.mem_cons.1 ha with rfl | ha
    · have : (L.flatMap fun b => List.replicate (g b) (f b)).count (f a) = 0 := List.count_eq_zero.2 fun hx => by
        obtain ⟨b, hb, hab⟩ := List.mem_flatMap.1 hx
        exact hnd.1 ((List.mem_replicate.1 hab).2 ▸ List.mem_map_of_mem hb)
      simp [this]
    · have : f b ≠ f a := fun e => hnd.1 (e ▸ List.mem_map_of_mem ha)
      simp [this, ih hnd.2 ha]

-- a scope (sequence or group) is skipped when it is optional and empty, and is its content otherwise
theorem scope_ok_of_missing {b x : Bool} {m : List Nat} (hx : m = [] → x = true)
    (h : (if b = true then [] else m) = []) : (b || x) = true := by
  cases b
  · exact hx h
  · rfl
theorem scope_missing_of_ok {b x : Bool} {m : List Nat} (hx : x = true → m = [])
    (h : (b || x) = true) : (if b = true then [] else m) = [] := by
  cases b
  · exact hx h
  · rfl

theorem scope_ok_iff_missing {b x : Bool} {m : List Nat} (hx : x = true ↔ m = []) :
    (b || x) = true ↔ (if b = true then [] else m) = [] :=
  ⟨scope_missing_of_ok hx.1, scope_ok_of_missing hx.2⟩

mutual
theorem ok_of_missing_nil (c : Nat → Nat) : (p : Particle) → p.flat = true →
    (∀ s ∈ p.specs, leMax (c s.1) s.2.2 = true) → missing c p = [] → p.ok c = true
  | .elem n mi ma, _, hm, h => by
    have := hm (n, mi, ma) (by simp [Particle.specs])
    simp only [missing] at h
    split at h
    · cases h
    · rename_i hlt
      simp only [Particle.ok, Bool.and_eq_true, decide_eq_true_eq]
      exact ⟨Nat.le_of_not_lt hlt, this⟩
  | .seq _ _ ps, hf, hm, h => scope_ok_of_missing (okL_of_missingL_nil c ps (flat_seq hf) hm) h
  | .choice _ _ _, hf, _, _ => nomatch hf
  | .group _ _ _ p, hf, hm, h => scope_ok_of_missing (ok_of_missing_nil c p (flat_group hf) hm) h
theorem okL_of_missingL_nil (c : Nat → Nat) : (ps : List Particle) → Particle.flatL ps = true →
    (∀ s ∈ Particle.specsL ps, leMax (c s.1) s.2.2 = true) → missingL c ps = [] → Particle.okL c ps = true
  | [], _, _, _ => rfl
  | p :: ps, hf, hm, h => by
    simp only [missingL, List.append_eq_nil_iff] at h
    simp only [Particle.specsL, List.mem_append] at hm
    simp only [Particle.okL, Bool.and_eq_true]
    exact ⟨ok_of_missing_nil c p (flatL_cons hf).1 (fun s hs => hm s (.inl hs)) h.1,
           okL_of_missingL_nil c ps (flatL_cons hf).2 (fun s hs => hm s (.inr hs)) h.2⟩
end

mutual
theorem missing_nil_of_ok (c : Nat → Nat) : (p : Particle) → p.flat = true → p.ok c = true → missing c p = []
  | .elem n mi ma, _, h => by
    simp only [Particle.ok, Bool.and_eq_true, decide_eq_true_eq] at h
    simp [missing, Nat.not_lt.2 h.1]
  | .seq _ _ ps, hf, h => scope_missing_of_ok (missingL_nil_of_okL c ps (flat_seq hf)) h
  | .choice _ _ _, hf, _ => nomatch hf
  | .group _ _ _ p, hf, h => scope_missing_of_ok (missing_nil_of_ok c p (flat_group hf)) h
theorem missingL_nil_of_okL (c : Nat → Nat) : (ps : List Particle) → Particle.flatL ps = true →
    Particle.okL c ps = true → missingL c ps = []
  | [], _, _ => rfl
  | p :: ps, hf, h => by
    simp only [Particle.okL, Bool.and_eq_true] at h
    simp only [missingL, missing_nil_of_ok c p (flatL_cons hf).1 h.1, missingL_nil_of_okL c ps (flatL_cons hf).2 h.2,
      List.append_nil]
end

/-! ### the invariant of reachable states
On Tame templates it is `Mslot.InvS` (`Tame.inv_iff`), and every history leads to a state that
satisfies it (`Tame.inv_run`). -/
def Inv (p : Particle) (k : Kids) : Prop :=
  (∀ c ∈ k, c.2 ∈ p.leaves) ∧
  (isFlat p = true → ∀ s ∈ p.specs, leMax (count k s.1) s.2.2 = true) ∧
  (∀ mi ps, p = .choice mi (some 1) ps → k.length ≤ 1)

theorem maxOf_some_mem {p : Particle} {n : Nat} {ma : Option Nat} (h : maxOf p n = some ma) :
    ∃ s ∈ p.specs, s.1 = n ∧ s.2.2 = ma := by
  simp only [maxOf, Option.map_eq_some_iff] at h
  obtain ⟨s, hs, rfl⟩ := h
  have := List.find?_some hs
  exact ⟨s, List.mem_of_find?_eq_some hs, by simpa using this, rfl⟩

theorem maxOf_eq_none {p : Particle} {n : Nat} : maxOf p n = none ↔ n ∉ p.leaves := by
  rw [← Particle.specs_names]
  simp only [maxOf, Option.map_eq_none_iff, List.find?_eq_none, List.mem_map, beq_iff_eq]
  exact ⟨fun h ⟨s, hs, e⟩ => h s hs e, fun h s hs e => h ⟨s, hs, e⟩⟩

theorem flat_not_choice {mi ma ps} : isFlat (.choice mi ma ps) = false := by simp [isFlat, Particle.flat]

theorem ordered_flat {p : Particle} (hf : isFlat p = true) (k : Kids) :
    ordered p k = p.leaves.flatMap fun n => k.filter (·.2 == n) := if_pos hf
theorem ordered_choice {mi ma ps} (k : Kids) : ordered (.choice mi ma ps) k = k := if_neg (by simp [flat_not_choice])

theorem required_flat {p : Particle} (hf : isFlat p = true) (k : Kids) : required p k = missing (cnt (names k)) p :=
  if_pos hf
theorem required_choice {mi ma ps} (k : Kids) :
    required (.choice mi ma ps) k = if mi ≥ 1 && k.isEmpty then (ps.map fun q => q.leaves).flatten else [] :=
  if_neg (by simp [flat_not_choice])

/-! ### the ledger: what a successful operation does to the list of children -/
def ledger (k : Kids) : Op → Kids
  | .add c n _ => k ++ [(c, n)]
  | .rm c => k.filter (·.1 != c)
  | .repl o nw n => replFirst o (nw, n) k

-- every branch of `add` that succeeds returns `k ++ [(cid, n)]`, literally or with `k = []`
theorem add_ok {p : Particle} {k k' : Kids} {c n : Nat} {f : Option Int} (h : add p k c n f = .ok k') :
    k' = k ++ [(c, n)] := by
  unfold add at h
  repeat' split at h
  all_goals cases h
  all_goals rfl

theorem remove_ok {k k' : Kids} {c : Nat} (h : remove k c = .ok k') : k' = k.filter (·.1 != c) := by
  unfold remove at h
  split at h <;> cases h
  rfl

theorem replace_ok {k k' : Kids} {o nw n : Nat} (h : replace k o nw n = .ok k') :
    (∃ c, k.find? (·.1 == o) = some (c, n)) ∧ k' = replFirst o (nw, n) k := by
  unfold replace at h
  split at h
  · cases h
  · rename_i c m hfind
    split at h <;> cases h
    rename_i hmn
    rw [beq_iff_eq] at hmn
    exact ⟨⟨c, hmn ▸ hfind⟩, rfl⟩

theorem step_ok {p : Particle} {k k' : Kids} {op : Op} (h : step p k op = .ok k') : k' = ledger k op := by
  cases op with
  | add c n f => exact add_ok h
  | rm c => exact remove_ok h
  | repl o nw n => exact (replace_ok h).2

theorem apply_ledger (p : Particle) (k : Kids) (op : Op) : apply p k op = k ∨ apply p k op = ledger k op := by
  unfold apply
  split
  · exact .inr (step_ok ‹_›)
  · exact .inl rfl

theorem names_replFirst {k : Kids} {old n c : Nat} (new : Nat)
    (h : k.find? (fun x => x.1 == old) = some (c, n)) : names (replFirst old (new, n) k) = names k := by
  induction k with
  | nil => cases h
  | cons a r ih =>
    rw [List.find?_cons] at h
    rw [replFirst]
    split at h <;> rename_i ha
    · cases h
      simp [ha, names]
    · rw [if_neg (by simp [ha])]
      exact congrArg (a.2 :: ·) (ih h)

theorem unitLeaf_eq {q : Particle} (h : isUnitLeaf q = true) : ∃ n, q = .elem n 1 (some 1) := by
  unfold isUnitLeaf at h
  split at h
  · exact ⟨_, rfl⟩
  · cases h

theorem langAlt_unit (ps : List Particle) (h : ps.all isUnitLeaf = true) (u : List Nat) :
    Particle.LangAlt ps u ↔ ∃ n ∈ Particle.leavesL ps, u = [n] := by
  induction ps with
  | nil => simp [Particle.LangAlt, Particle.leavesL]
  | cons q qs ih =>
    rw [List.all_cons, Bool.and_eq_true] at h
    obtain ⟨n, rfl⟩ := unitLeaf_eq h.1
    simp [Particle.LangAlt, Particle.leavesL, Particle.leaves, Particle.Lang, Rep_one, ih h.2]

theorem lang_rootChoice {mi : Nat} {ma : Option Nat} {ps : List Particle} (h : ps.all isUnitLeaf = true)
    (w : List Nat) :
    (Particle.choice mi ma ps).Lang w ↔
      (∀ x ∈ w, x ∈ Particle.leavesL ps) ∧ mi ≤ w.length ∧ leMax w.length ma = true := by
  rw [← Rep_letters, Particle.Lang, funext fun u => propext (langAlt_unit ps h u)]

def runE (p : Particle) : Kids → List Op → Except Err Kids
  | k, [] => .ok k
  | k, op :: r => match step p k op with
    | .ok k' => runE p k' r
    | .error e => .error e

/-- supplying the children `w` one at a time, with ids `start, start+1, …` -/
def addOps : Nat → List Nat → List Op
  | _, [] => []
  | i, n :: w => .add i n none :: addOps (i + 1) w

def zipIds : Nat → List Nat → Kids
  | _, [] => []
  | i, n :: w => (i, n) :: zipIds (i + 1) w

theorem names_zipIds (i : Nat) (w : List Nat) : names (zipIds i w) = w := by
  induction w generalizing i with
  | nil => rfl
  | cons n w ih => simp [zipIds, names] at ih ⊢; exact ih (i + 1)

theorem ids_zipIds (i : Nat) (w : List Nat) : ids (zipIds i w) = List.range' i w.length := by
  induction w generalizing i with
  | nil => rfl
  | cons n w ih => simp [zipIds, ids, List.range'] at ih ⊢; exact ih (i + 1)

theorem cnt_names_append (a : Kids) (w : List Nat) (i n : Nat) :
    count (a ++ zipIds i w) n = count a n + w.count n := by
  simp [count, names_append, names_zipIds, List.count_append]

def addOpsK (k : Kids) : List Op := k.map (fun c => .add c.1 c.2 none)

theorem count_le_of_split (a b : Kids) (n : Nat) : count (a ++ b) n = count a n + count b n := by
  simp [count, names_append, List.count_append]

/-! ### completion of a Flat state: add the missing required leaves of every active scope -/
mutual
def need (c : Nat → Nat) : Particle → List Nat
  | .elem n mi _ => List.replicate (mi - c n) n
  | .seq mi _ ps => if mi == 0 && Particle.empL c ps then [] else needL c ps
  | .choice _ _ _ => []
  | .group _ mi _ p => if mi == 0 && p.emp c then [] else need c p
def needL (c : Nat → Nat) : List Particle → List Nat
  | [] => []
  | p :: ps => need c p ++ needL c ps
end

theorem mem_of_mem_ite_nil {b : Bool} {l : List Nat} {x : Nat} (h : x ∈ if b = true then [] else l) : x ∈ l := by
  split at h
  · cases h
  · exact h

-- the completion is what every leaf lacks of its minimum, without the scopes that are skipped
mutual
theorem need_sublist (c : Nat → Nat) : (p : Particle) →
    (need c p).Sublist (p.specs.flatMap fun s => List.replicate (s.2.1 - c s.1) s.1)
  | .elem _ _ _ => by simp [need, Particle.specs]
  | .seq _ _ ps => by
    rw [need]
    split
    · exact List.nil_sublist _
    · exact needL_sublist c ps
  | .choice _ _ _ => List.nil_sublist _
  | .group _ _ _ p => by
    rw [need]
    split
    · exact List.nil_sublist _
    · exact need_sublist c p
theorem needL_sublist (c : Nat → Nat) : (ps : List Particle) →
    (needL c ps).Sublist ((Particle.specsL ps).flatMap fun s => List.replicate (s.2.1 - c s.1) s.1)
  | [] => .slnil
  | p :: ps => by
    rw [needL, Particle.specsL, List.flatMap_append]
    exact (need_sublist c p).append (needL_sublist c ps)
end

theorem needL_count_le (c : Nat → Nat) : (ps : List Particle) → (Particle.leavesL ps).Nodup →
    ∀ s ∈ Particle.specsL ps, (needL c ps).count s.1 ≤ s.2.1 - c s.1 :=
  fun ps hnd s hs => by
    rw [← Particle.specsL_names] at hnd
    exact Nat.le_trans ((needL_sublist c ps).count_le s.1)
      (Nat.le_of_eq (count_flatMap_replicate (·.1) (fun s => s.2.1 - c s.1) hnd hs))

end Msimple

theorem Particle.cnt_renderL (c : Nat → Nat) : (ps : List Particle) → Particle.flatL ps = true →
    (Particle.leavesL ps).Nodup → ∀ n ∈ Particle.leavesL ps, cnt (Particle.renderL c ps) n = c n :=
  fun ps hf hnd _ hn => by
    rw [Msimple.renderL_flatMap c ps hf]
    exact Msimple.count_flatMap_replicate id c (by rwa [List.map_id]) hn
