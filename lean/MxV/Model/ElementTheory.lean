import MxV.Model.Element
/-! Laws of the attribute store of `Model/Element.lean` — what a lookup sees after a write or a removal, that the
keys stay distinct — and the two readings of `setAttr` the property theorems use: its definition on a value other
than `None` (`setAttr_eq`) and the effect of a successful call (`setAttr_ok_cases`). -/
namespace Element
open Values

theorem storeGet_cons (e : String × PyVal) (r : Store) (k : String) :
    storeGet (e :: r) k = if e.1 = k then some e.2 else storeGet r k := by
  by_cases h : e.1 = k <;> simp [storeGet, h]

theorem storeGet_isSome (s : Store) (k : String) : (storeGet s k).isSome = s.any (·.1 == k) := by
  rw [storeGet, Option.isSome_map, List.isSome_find?]

theorem fst_replace (k : String) (v : PyVal) (e : String × PyVal) :
    (if e.1 == k then (k, v) else e).1 = e.1 := by
  split <;> simp_all

theorem storeGet_replace (s : Store) (k k' : String) (v : PyVal) :
    storeGet (s.map fun e => if e.1 == k then (k, v) else e) k' =
      (storeGet s k').map fun w => if k' = k then v else w := by
  induction s with
  | nil => rfl
  | cons e r ih =>
    rw [List.map_cons, storeGet_cons, storeGet_cons, ih, fst_replace]
    split
    · subst k'; by_cases he : e.1 = k <;> simp [he]
    · rfl

theorem storeGet_set (s : Store) (k : String) (v : PyVal) : storeGet (storeSet s k v) k = some v := by
  unfold storeSet
  split <;> rename_i h
  · obtain ⟨w, hw⟩ := Option.isSome_iff_exists.1 ((storeGet_isSome s k).trans h)
    rw [storeGet_replace, hw]; simp
  · have : s.find? (·.1 == k) = none := List.find?_eq_none.2 fun x hx hk => h (List.any_eq_true.2 ⟨x, hx, hk⟩)
    simp [storeGet, List.find?_append, this]

theorem storeGet_set_ne (s : Store) (k k' : String) (v : PyVal) (h : k' ≠ k) :
    storeGet (storeSet s k v) k' = storeGet s k' := by
  unfold storeSet
  split
  · rw [storeGet_replace]; simp [h]
  · simp [storeGet, List.find?_append, h.symm]

theorem storeGet_del (s : Store) (k : String) : storeGet (storeDel s k) k = Option.none := by
  simp [storeGet, storeDel]

theorem storeGet_del_ne (s : Store) (k k' : String) (h : k' ≠ k) :
    storeGet (storeDel s k) k' = storeGet s k' := by
  unfold storeGet storeDel
  rw [List.find?_filter]
  congr 2; funext e
  by_cases he : e.1 = k' <;> simp [he, h]

theorem setAttr_eq (validate : Nat → PyVal → Res) (t : Tbl) (s : Store) (key : String) (v : PyVal)
    (hv : v ≠ .none) :
    setAttr validate t s key v =
      match tblFind t (normKey key) with
      | Option.none => .error .wrongAttribute
      | some (ty, _) =>
        match validate ty v with
        | .ok => .ok (storeSet s (normKey key) v)
        | .typeError => .error .typeError
        | .valueError => .error .valueError := by
  cases v <;> first | rfl | exact absurd rfl hv

theorem setAttr_ok_cases {validate : Nat → PyVal → Res} {t : Tbl} {s s' : Store} {key : String} {v : PyVal}
    (h : setAttr validate t s key v = .ok s') :
    v = .none ∧ s' = storeDel s (normKey key) ∨ v ≠ .none ∧ s' = storeSet s (normKey key) v := by
  by_cases hv : v = .none
  · subst hv; cases h; exact .inl ⟨rfl, rfl⟩
  · rw [setAttr_eq validate t s key v hv] at h
    repeat' split at h
    all_goals cases h
    exact .inr ⟨hv, rfl⟩

theorem normKey_respell (f : Char → Char)
    (hf : ∀ c, (if f c == '_' then '-' else f c) = if c == '_' then '-' else c) (k : String) :
    normKey (String.ofList (k.toList.map f)) = normKey k := by
  simp only [normKey, String.toList_ofList, List.map_map]
  -- not `congr`: it tries `String.ofList … = String.ofList …` by unfolding first, which is slow
  exact congrArg String.ofList (List.map_congr_left fun c _ => hf c)

theorem nodup_keys_storeDel (s : Store) (k : String) (hn : (s.map (·.1)).Nodup) :
    ((storeDel s k).map (·.1)).Nodup :=
  hn.sublist (List.filter_sublist.map _)

theorem nodup_keys_storeSet (s : Store) (k : String) (v : PyVal) (hn : (s.map (·.1)).Nodup) :
    ((storeSet s k v).map (·.1)).Nodup := by
  unfold storeSet
  split
  · rwa [List.map_map, show (_ ∘ _) = _ from funext (fst_replace k v)]
  · rename_i hk
    rw [List.map_append]
    refine List.nodup_append.2 ⟨hn, by simp, fun a ha b hb hab => hk ?_⟩
    obtain ⟨e, he, rfl⟩ := List.mem_map.1 ha
    exact List.any_eq_true.2 ⟨e, he, by simp_all⟩

theorem storeDel_storeSet_fresh (s : Store) (k : String) (v : PyVal) (h : s.any (·.1 == k) = false) :
    storeDel (storeSet s k v) k = s := by
  have : s.filter (·.1 != k) = s := List.filter_eq_self.2 fun e he => by simpa using List.any_eq_false.1 h e he
  simp [storeSet, storeDel, h, List.filter_append, this]

end Element
