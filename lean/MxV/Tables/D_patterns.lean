import MxV.Gen.Values
import MxV.Props.C05
import MxV.Model.CollapseTheory
/-! # pattern facets: the library's effective regular expressions have exactly the schema's language

`Gen.patternsS` — per pattern-carrying simple-type class, the Python regular expression the library
compiles (after its own `\c` / `\i` expansion; for `xs:date` the hand-written `_PATTERN`), translated
by `extract/regex2lean.py`. `Gen.specPatternsS` — the XSD pattern facet in force for the same type
(nearest ancestor that declares one; for `xs:date` the W3C lexical representation), translated from
the XSD regex syntax by `extract/xsdre.py`, which never looks at the library.

`patterns_agree`: the verified equivalence checker `SRE.equiv` answers `true` on every pair (kernel evaluation);
`pattern_language_is_schema` lifts it: for **every** string, the two expressions agree. With `Props/C05.lean` (imported:
the one place where `Tables/` rests on `Props/`) this gives the acceptance theorems in terms of the schema's pattern
(`token_pattern_type_accepts_iff_schema`, `plain_…`, `xsDate_accepts_iff_w3c`); the recognisers `isPlainPattern`,
`isTokenPattern`, `isPlainUnion` and the decisions after them show that the table has types meeting their hypotheses. -/
namespace C05
open Gen

def lookS (k : Nat) : List (Nat × SRE) → Option SRE
  | [] => none
  | (j, r) :: t => if k == j then some r else lookS k t

def patternsAgree : Bool :=
  patternsS.all fun p => match lookS p.1 specPatternsS with
    | some s => SRE.equiv p.2 s
    | none => false

/-- the kernel runs `SRE.fastEquiv`: `SRE.equiv` itself costs it three times as much -/
theorem patterns_agree : patternsAgree = true := by
  have h : (patternsS.all fun p => match lookS p.1 specPatternsS with
      | some s => SRE.fastEquiv p.2 s 100000
      | none => false) = true := by decide +kernel
  simp only [patternsAgree, List.all_eq_true] at h ⊢
  intro p hp
  have := h p hp
  split at this
  · next s hs => simpa only [hs] using SRE.equiv_of_fastEquiv this
  · cases this

/-- every pattern-carrying type: the expression the library matches with and the schema's pattern
    accept exactly the same strings (all lengths, all code points) -/
theorem pattern_language_is_schema {k : Nat} {i s : SRE} (hi : (k, i) ∈ patternsS)
    (hs : lookS k specPatternsS = some s) (w : List Char) :
    RE.rmatch i.toREc w = RE.rmatch s.toREc w := by
  have h := List.all_eq_true.1 patterns_agree (k, i) hi
  simp only [hs] at h
  exact SRE.equiv_sound_char h w

theorem lookS_mem {k : Nat} {i : SRE} : ∀ {l : List (Nat × SRE)}, lookS k l = some i → (k, i) ∈ l
  | (j, r) :: t, h => by
    simp only [lookS] at h
    split at h
    · simp_all
    · exact List.mem_cons_of_mem _ (lookS_mem h)

theorem lookupPat_map (k : Nat) : ∀ l : List (Nat × SRE),
    Values.lookupPat k (l.map fun p => (p.1, p.2.toREc)) = (lookS k l).map SRE.toREc
  | [] => rfl
  | (j, r) :: t => by simp only [List.map, Values.lookupPat, lookS]; split <;> simp [lookupPat_map k t]

theorem lookupPat_valuesEnv (k : Nat) :
    Values.lookupPat k valuesEnv.pats = (lookS k patternsS).map SRE.toREc :=
  lookupPat_map k patternsS

/-- tied to the validator: whatever expression `validate` looks up for a type key, it has the
    language of the schema pattern of that type -/
theorem validator_pattern_is_schema {k : Nat} {r : RE Char} {s : SRE}
    (hr : Values.lookupPat k valuesEnv.pats = some r) (hs : lookS k specPatternsS = some s) (w : List Char) :
    RE.rmatch r w = RE.rmatch s.toREc w := by
  rw [lookupPat_valuesEnv] at hr
  obtain ⟨i, hi, rfl⟩ := Option.map_eq_some_iff.1 hr
  exact pattern_language_is_schema (lookS_mem hi) hs w

/-- `C05.pattern_accepts_iff` on the regenerated table, with the schema's expression in the place of the library's -/
theorem pattern_type_accepts_iff_schema (fuel : Nat) (d : Values.SimpleDef) (k : Nat) {i sp : SRE}
    (h : PlainPattern d k ∨ TokenPattern d k)
    (hi : lookS k patternsS = some i) (hs : lookS k specPatternsS = some sp) (x : String) :
    Values.validate valuesEnv (fuel + 1) d (.str x) = .ok ↔
      RE.rmatch sp.toREc (if d.base = 1 then Values.cleanedToken x else x).toList = true ∧
      ((d.key == valuesEnv.dateKey) = true →
        Values.dateDayOk (if d.base = 1 then Values.cleanedToken x else x).toList = true) := by
  rw [← pattern_language_is_schema (lookS_mem hi) hs]
  exact pattern_accepts_iff valuesEnv fuel d k _ h (by simp [lookupPat_valuesEnv, hi]) x

/-- **C05 for the token pattern types, end to end on the model**: such a type accepts a string exactly
    when the text, normalised as the schema prescribes (`whiteSpace = collapse`: `Values.collapseX`,
    proved equal to the port of get_cleaned_token in `Model/CollapseTheory.lean`), is in the language
    of the *schema's* pattern -/
theorem token_pattern_type_accepts_iff_schema (fuel : Nat) (d : Values.SimpleDef) (k : Nat) (i sp : SRE)
    (h : TokenPattern d k) (hk : (d.key == valuesEnv.dateKey) = false)
    (hi : lookS k patternsS = some i) (hs : lookS k specPatternsS = some sp) (x : String) :
    Values.validate valuesEnv (fuel + 1) d (.str x) = .ok ↔
      RE.rmatch sp.toREc (Values.collapseX x.toList) = true := by
  rw [← Values.cleanedToken_eq_collapse]
  simpa [h.base, hk] using pattern_type_accepts_iff_schema fuel d k (.inr h) hi hs x

/-- the same for the types matched without white-space collapse (ID, IDREF, NCName, glyph-name subtypes) -/
theorem plain_pattern_type_accepts_iff_schema (fuel : Nat) (d : Values.SimpleDef) (k : Nat) (i sp : SRE)
    (h : PlainPattern d k) (hk : (d.key == valuesEnv.dateKey) = false)
    (hi : lookS k patternsS = some i) (hs : lookS k specPatternsS = some sp) (x : String) :
    Values.validate valuesEnv (fuel + 1) d (.str x) = .ok ↔ RE.rmatch sp.toREc x.toList = true := by
  simpa [h.base, hk] using pattern_type_accepts_iff_schema fuel d k (.inl h) hi hs x

/-- **xs:date accepts exactly the W3C lexical representation with an existing day of the month** -/
theorem xsDate_accepts_iff_w3c (fuel : Nat) (d : Values.SimpleDef) (k : Nat) (i sp : SRE)
    (h : PlainPattern d k) (hk : (d.key == valuesEnv.dateKey) = true)
    (hi : lookS k patternsS = some i) (hs : lookS k specPatternsS = some sp) (x : String) :
    Values.validate valuesEnv (fuel + 1) d (.str x) = .ok ↔
      (RE.rmatch sp.toREc x.toList = true ∧ Values.dateDayOk x.toList = true) := by
  simpa [h.base, hk] using pattern_type_accepts_iff_schema fuel d k (.inl h) hi hs x

def isPlainPattern (d : Values.SimpleDef) : Bool :=
  d.pyTypes == [0] && d.union.isEmpty && d.forced.isEmpty && d.permitted.isEmpty && d.pattern.isSome &&
  d.base == 0 && !d.isNonNeg && !d.isPositive

/-- the definition the table holds for XSDSimpleTypeDate meets the hypotheses of `xsDate_accepts_iff_w3c` -/
theorem xsDate_is_plain_pattern :
    (match Values.lookupDef valuesEnv.dateKey simpleDefs with
     | some d => isPlainPattern d && d.pattern == some valuesEnv.dateKey && d.key == valuesEnv.dateKey &&
         (lookS valuesEnv.dateKey patternsS).isSome && (lookS valuesEnv.dateKey specPatternsS).isSome
     | none => false) = true := by decide +kernel

def isTokenPattern (d : Values.SimpleDef) : Bool :=
  d.pyTypes == [0] && d.union.isEmpty && d.forced.isEmpty && d.permitted.isEmpty && d.pattern.isSome &&
  d.base == 1 && !d.isNonNeg && !d.isPositive

theorem isTokenPattern_sound {d : Values.SimpleDef} (h : isTokenPattern d = true) :
    ∃ k, TokenPattern d k := by
  simp only [isTokenPattern, Bool.and_eq_true, beq_iff_eq, List.isEmpty_iff, Bool.not_eq_true',
    Option.isSome_iff_exists] at h
  obtain ⟨⟨⟨⟨⟨⟨⟨h1, h2⟩, h3⟩, h4⟩, ⟨k, h5⟩⟩, h6⟩, h7⟩, h8⟩ := h
  exact ⟨k, h1, h2, h3, h4, h5, h6, h7, h8⟩

/-- non-vacuity: the regenerated table contains such types, each with both expressions present -/
theorem token_pattern_types_exist :
    5 ≤ (simpleDefs.filter fun d => isTokenPattern d &&
      (match d.pattern with
       | some k => (lookS k patternsS).isSome && (lookS k specPatternsS).isSome
       | none => false)).length := by decide +kernel

/-! union types of the regenerated table (font-size, yes-no-number) meet `C05.union_accepts_iff_member` -/
def isPlainUnion (d : Values.SimpleDef) : Bool :=
  !d.union.isEmpty && d.forced.isEmpty && !d.isNonNeg && !d.isPositive

theorem isPlainUnion_sound {d : Values.SimpleDef} (h : isPlainUnion d = true) : PlainUnion d := by
  simp only [isPlainUnion, Bool.and_eq_true, Bool.not_eq_true', List.isEmpty_iff] at h
  obtain ⟨⟨⟨h1, h2⟩, h3⟩, h4⟩ := h
  refine ⟨?_, h2, h3, h4⟩
  intro hn; simp [hn] at h1

theorem union_types_exist :
    2 ≤ (simpleDefs.filter fun d => isPlainUnion d && d.union.all fun u => (Values.lookupDef u simpleDefs).isSome).length := by
  decide +kernel

/-- every pattern-carrying class has a schema pattern to be compared with (no pair is skipped) -/
theorem every_pattern_has_schema : (patternsS.all fun p => (lookS p.1 specPatternsS).isSome) = true := by
  decide +kernel

/-- … and conversely every type for which the schema has a pattern in force is validated with one
    (a dropped pattern check does not go unnoticed) -/
theorem every_schema_pattern_is_enforced : (specPatternsS.all fun p => (lookS p.1 patternsS).isSome) = true := by
  decide +kernel

/-- non-vacuity: the hypotheses are met by at least 20 concrete types -/
theorem pattern_count : 20 ≤ patternsS.length := by decide +kernel
end C05

#print axioms C05.patterns_agree
#print axioms C05.pattern_language_is_schema
#print axioms C05.validator_pattern_is_schema
#print axioms C05.token_pattern_type_accepts_iff_schema
#print axioms C05.plain_pattern_type_accepts_iff_schema
#print axioms C05.xsDate_accepts_iff_w3c
#print axioms C05.xsDate_is_plain_pattern
#print axioms C05.isTokenPattern_sound
#print axioms C05.token_pattern_types_exist
#print axioms C05.isPlainUnion_sound
#print axioms C05.union_types_exist
#print axioms C05.every_pattern_has_schema
#print axioms C05.every_schema_pattern_is_enforced
#print axioms C05.pattern_count
