import MxV.Tables.D_witnesses
/-! kernel-checked negative witnesses of C06 on the content models outside the proven class (see Tables/WitnessBase.lean; evaluated in Tables/D_witnesses.lean) -/
namespace C06
open Witness Mfull Gen
/-- … a history after which the two child views are not permutations of each other -/
theorem fails_on_wild_models : allFail (fun _ p ops => wC06 p ops) witC06 = true := all_fail.2.2.1
/-- non-vacuity: the table really lists histories -/
example : 5 ≤ witC06.length := by decide
end C06

#print axioms C06.fails_on_wild_models
