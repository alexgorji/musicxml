import MxV.Tables.WitnessBase
/-! All negative witnesses in one kernel run. The six tables overlap (`witC10` repeats four histories
of `witC06`, `witC01` and `witC11` share four more) and within one evaluation the kernel runs `Mfull`
once per history, and once per common prefix of two histories on the same template. The `note` history
of `witC06` / `witC10` alone takes minutes, so checking the tables one by one pays for it twice and
costs about double in all. `Tables/D_witnesses_C*.lean` project the six statements out. -/
namespace Witness
open Mfull Gen

theorem all_fail :
    allFail (fun sp p ops => wC01 sp p ops) witC01 = true ∧
    allFail (fun sp p ops => wC02 sp p (addNames ops)) witC02 = true ∧
    allFail (fun _ p ops => wC06 p ops) witC06 = true ∧
    allFail (fun _ p ops => wC10 p ops) witC10 = true ∧
    allFail (fun _ p ops => wC11 p ops) witC11 = true ∧
    allFail (fun sp p ops => wC12 sp p (addNames ops)) witC12 = true := by decide +kernel
end Witness
