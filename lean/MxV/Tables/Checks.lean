import MxV.Core.Sub
import MxV.Gen.Templates
import MxV.Gen.Elements
import MxV.Gen.Attrs
import MxV.Gen.Simple
/-! Boolean checkers over the regenerated tables (definitions and generic lemmas only; the
    `decide +kernel` instances live in `MxV/Tables/D_*.lean`, one per file so that they are
    re-checked in parallel).

    Kernel evaluation of structurally recursive list functions costs ~50 µs per step, so the
    quadratic checks (`Nodup`, subset) are done through bit masks (`Nat.testBit`, `|||`, `<<<`
    are GMP-accelerated in the kernel) and are proved sound below; joins between the impl and
    spec tables are linear walks over lists the generator emits in the same key order. -/
namespace C03
open Gen

def lookup {β : Type} (k : Nat) : List (Nat × β) → Option β
  | [] => none
  | (k', v) :: r => if Nat.beq k k' then some v else lookup k r

theorem lookup_mem {β : Type} {k : Nat} {l : List (Nat × β)} {v : β} (h : lookup k l = some v) :
    (k, v) ∈ l := by
  induction l with
  | nil => simp [lookup] at h
  | cons a r ih =>
    obtain ⟨k', v'⟩ := a
    simp only [lookup] at h
    split at h
    · next hk =>
      cases h
      exact Nat.eq_of_beq_eq_true hk ▸ List.mem_cons_self
    · exact List.mem_cons_of_mem _ (ih h)

def nodupM : List Nat → Nat → Bool
  | [], _ => true
  | n :: r, m => !(m.testBit n) && nodupM r (m ||| (1 <<< n))
def maskOf : List Nat → Nat → Nat
  | [], m => m
  | n :: r, m => maskOf r (m ||| (1 <<< n))
def nodupB (l : List Nat) : Bool := nodupM l 0
def subsetB (a b : List Nat) : Bool := a.all (fun n => (maskOf b 0).testBit n)

theorem testBit_set (m n x : Nat) :
    (m ||| (1 <<< n)).testBit x = (m.testBit x || decide (n = x)) := by
  rw [Nat.testBit_or, Nat.one_shiftLeft, Nat.testBit_two_pow]

theorem nodupM_sound : ∀ (l : List Nat) (m : Nat), nodupM l m = true →
    l.Nodup ∧ ∀ x ∈ l, m.testBit x = false
  | [], _, _ => by simp
  | n :: r, m, h => by
    simp only [nodupM, Bool.and_eq_true, Bool.not_eq_true'] at h
    obtain ⟨ih1, ih2⟩ := nodupM_sound r _ h.2
    have ih2 : ∀ x ∈ r, m.testBit x = false ∧ n ≠ x := fun x hx => by
      simpa only [testBit_set, Bool.or_eq_false_iff, decide_eq_false_iff_not] using ih2 x hx
    exact ⟨List.nodup_cons.2 ⟨fun hn => (ih2 n hn).2 rfl, ih1⟩,
      List.forall_mem_cons.2 ⟨h.1, fun x hx => (ih2 x hx).1⟩⟩

theorem nodupB_sound {l : List Nat} (h : nodupB l = true) : l.Nodup := (nodupM_sound l 0 h).1

theorem maskOf_testBit : ∀ (l : List Nat) (m x : Nat),
    (maskOf l m).testBit x = (m.testBit x || decide (x ∈ l))
  | [], m, x => by simp [maskOf]
  | n :: r, m, x => by
    simp only [maskOf]
    rw [maskOf_testBit r, testBit_set]
    by_cases h : n = x <;> simp [h, eq_comm]

theorem subsetB_sound {a b : List Nat} (h : subsetB a b = true) : ∀ x ∈ a, x ∈ b := fun x hx => by
  simpa [maskOf_testBit] using List.all_eq_true.1 h x hx

def templatesEquivB : Bool :=
  implTemplates.all (fun kp => match lookup kp.1 specTemplates with
    | some q => kp.2.equivB q
    | none => false)
  && specTemplates.all (fun kq => (lookup kq.1 implTemplates).isSome)

/-- every instance's private copy is structurally the process-wide template of its type -/
def instTemplatesB : Bool :=
  instTemplates.all (fun r => match lookup r.2.1 implTemplates with
    | some p => r.2.2.beq p
    | none => false)

def groupsB : Bool :=
  implGroups.all (fun kp => match lookup kp.1 specGroups with
    | some q => kp.2.equivB q
    | none => false)
  && specGroups.all (fun kq => (lookup kq.1 implGroups).isSome)

/-- the literal projections really are the projections of the row table -/
def elemProjectionsB : Bool :=
  implElements.map (·.name) == implElemNamesL && implElements.map (·.cls) == implElemClsL &&
  implElements.map (·.typeCls) == implElemTypeL && specElements.map (·.1) == specElemNamesL

/-- one class per declared element name, no class without a declaration, no name twice -/
def elementsBijectiveB : Bool :=
  nodupB specElemNamesL && nodupB implElemNamesL && nodupB implElemClsL &&
  subsetB specElemNamesL implElemNamesL && subsetB implElemNamesL specElemNamesL &&
  implElements.all (fun e => !e.broken)

theorem elements_bijective_sound (h : elementsBijectiveB = true) :
    specElemNamesL.Nodup ∧ implElemNamesL.Nodup ∧ implElemClsL.Nodup ∧
    (∀ n, n ∈ specElemNamesL ↔ n ∈ implElemNamesL) := by
  simp only [elementsBijectiveB, Bool.and_eq_true] at h
  obtain ⟨⟨⟨⟨⟨h1, h2⟩, h3⟩, h4⟩, h5⟩, _⟩ := h
  exact ⟨nodupB_sound h1, nodupB_sound h2, nodupB_sound h3,
    fun n => ⟨subsetB_sound h4 n, subsetB_sound h5 n⟩⟩

/-- the class of name `n` is the one the documented naming rule yields (the live function was
    evaluated on every declared name, rows in the same order as the element table), the rule is
    injective on the declared names, and `__all__` lists exactly these classes -/
def nameRuleB : Bool :=
  implNameRule.map (·.1) == implElemNamesL && implNameRule.map (·.2) == implElemClsL &&
  nodupB implElemClsL &&
  subsetB implAllDecl implElemClsL && subsetB implElemClsL implAllDecl

/-- each class is bound to (the class of) the type its declaration names; impl rows and spec
    rows are walked in the same (name) order -/
def bindWalk : List Nat → List Nat → List (Nat × List Nat) → Bool
  | [], [], [] => true
  | n :: ns, t :: ts, (n', tys) :: r => Nat.beq n n' && tys.any (Nat.beq t) && bindWalk ns ts r
  | _, _, _ => false
def typeBindingB : Bool := bindWalk implElemNamesL implElemTypeL specElements

def rowB (r r' : AttrRow) : Bool :=
  Nat.beq r.name r'.name && Nat.beq r.type r'.type && r.required == r'.required && r.broken == r'.broken
def rowsSubset (a b : List AttrRow) : Bool := a.all (fun r => b.any (rowB r))
def rowsEq (a b : List AttrRow) : Bool := rowsSubset a b && rowsSubset b a && a.length == b.length

/-- type keys whose impl attribute table is broken on the current tree (open findings F9:
    xlink references, xs:anyURI, inline-typed xml:space). A key listed here only *weakens*
    the theorem; it is never a proof obligation that the table stays broken. -/
def attrExceptions : List Nat :=
  (implAttrs.filter (fun r => r.2.1.any (·.broken))).map (·.1)

/-- impl and spec attribute tables (emitted in the same type-key order) agree row by row -/
def attrWalk : List (Nat × List AttrRow × Nat) → List (Nat × List AttrRow × Nat) → Bool
  | [], [] => true
  | (k, rows, sc) :: r, (k', rows', sc') :: r' =>
    Nat.beq k k' && (rows.any (·.broken) || (rowsEq rows rows' && Nat.beq sc sc')) && attrWalk r r'
  | _, _ => false
def attrTablesB : Bool := attrWalk implAttrs specAttrs

/-- the exception list is bounded by what the design recorded (so a *new* broken table is not
    silently excused): at most these 7 type keys -/
def attrExceptionsBound : Bool := attrExceptions.length ≤ 7

def groupWalk : List (Nat × List AttrRow) → List (Nat × List AttrRow) → Bool
  | [], [] => true
  | (k, rows) :: r, (k', rows') :: r' =>
    Nat.beq k k' && (rows.any (·.broken) || rowsEq rows rows') && groupWalk r r'
  | _, _ => false
def attrGroupsB : Bool := groupWalk implAttrGroups specAttrGroups

/-- no attribute is declared twice for one type (so "the" type/required flag is well defined) -/
def attrNamesNodupB : Bool :=
  implAttrs.all (fun r => r.2.1.any (·.broken) || nodupB (r.2.1.map (·.name)))

def simpleRowB (i s : SimpleRow) : Bool :=
  Nat.beq i.key s.key && Nat.beq i.base s.base && i.enums == s.enums &&
  i.facets.map (·.1) == s.facets.map (·.1) && i.facets.map (·.2) == s.facets.map (·.2) &&
  i.members == s.members && i.forced == s.forced
/-- every schema simple type has an impl class with the same base, enumeration, facets, union
    members and forced literals (spec rows are walked against the impl rows of the same key; the
    generator emits `implSimpleForSpec` in spec order) -/
def simpleWalk : List SimpleRow → List SimpleRow → Bool
  | [], [] => true
  | i :: r, s :: r' => simpleRowB i s && simpleWalk r r'
  | _, _ => false
def simpleDefsB : Bool := simpleWalk implSimpleForSpec specSimple
def simpleSubB : Bool := implSimpleForSpec.all (fun r => implSimple.any (simpleRowB r))

end C03
