import MxV.Tables.D_witnesses
/-! kernel-checked negative witnesses of C12 on the content models outside the proven class (see Tables/WitnessBase.lean; evaluated in Tables/D_witnesses.lean) -/
namespace C12
open Witness Mfull Gen
/-- … children with exactly one schema-valid arrangement whose insertion in the listed order is refused, left
    "incomplete" or serialised differently -/
theorem fails_on_wild_models : allFail (fun sp p ops => wC12 sp p (addNames ops)) witC12 = true := all_fail.2.2.2.2.2
/-- non-vacuity: the table really lists histories -/
example : 3 ≤ witC12.length := by decide
end C12

#print axioms C12.fails_on_wild_models
