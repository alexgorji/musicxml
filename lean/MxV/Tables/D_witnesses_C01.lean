import MxV.Tables.D_witnesses
/-! kernel-checked negative witnesses of C01 on the content models outside the proven class (see Tables/WitnessBase.lean; evaluated in Tables/D_witnesses.lean) -/
namespace C01
open Witness Mfull Gen
/-- on each listed content model there is a history after which the final check passes although the children are no word of the schema's content model -/
theorem fails_on_wild_models : allFail (fun sp p ops => wC01 sp p ops) witC01 = true := all_fail.1
/-- non-vacuity: the table really lists histories -/
example : 4 ≤ witC01.length := by decide
end C01

#print axioms C01.fails_on_wild_models
