import MxV.Tables.D_witnesses
/-! kernel-checked negative witnesses of C10 on the content models outside the proven class (see Tables/WitnessBase.lean; evaluated in Tables/D_witnesses.lean) -/
namespace C10
open Witness Mfull Gen
/-- … a history whose refused calls change the final observable state -/
theorem fails_on_wild_models : allFail (fun _ p ops => wC10 p ops) witC10 = true := all_fail.2.2.2.1
/-- non-vacuity: the table really lists histories -/
example : 3 ≤ witC10.length := by decide
end C10

#print axioms C10.fails_on_wild_models
