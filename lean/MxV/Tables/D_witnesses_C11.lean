import MxV.Tables.D_witnesses
/-! kernel-checked negative witnesses of C11 on the content models outside the proven class (see Tables/WitnessBase.lean; evaluated in Tables/D_witnesses.lean) -/
namespace C11
open Witness Mfull Gen
/-- … a history with removals that ends differently from a fresh element holding the surviving children -/
theorem fails_on_wild_models : allFail (fun _ p ops => wC11 p ops) witC11 = true := all_fail.2.2.2.2.1
/-- non-vacuity: the table really lists histories -/
example : 8 ≤ witC11.length := by decide
end C11

#print axioms C11.fails_on_wild_models
