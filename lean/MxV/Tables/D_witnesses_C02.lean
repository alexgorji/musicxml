import MxV.Tables.D_witnesses
/-! kernel-checked negative witnesses of C02 on the content models outside the proven class (see Tables/WitnessBase.lean; evaluated in Tables/D_witnesses.lean) -/
namespace C02
open Witness Mfull Gen
/-- … a schema-valid word, supplied in order, that is refused, left "incomplete" or reordered -/
theorem fails_on_wild_models : allFail (fun sp p ops => wC02 sp p (addNames ops)) witC02 = true := all_fail.2.1
/-- non-vacuity: the table really lists histories -/
example : 4 ≤ witC02.length := by decide
end C02

#print axioms C02.fails_on_wild_models
